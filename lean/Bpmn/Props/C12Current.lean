import Bpmn.Props.C02Current
import Bpmn.Gen.C12
/-! C12 at the facts extracted from the current /repo tree (`Bpmn.Gen.C12`, regenerated on every run).

An activation of an embedded sub-process runs the completion protocol of C02 on the INNER tracer: one monitor per
activation, which has to be subscribed before the inner start events are triggered, or it misses the start event's
`FlowTrace`, never emits the inner cease-flow trace, and the parent token never leaves the sub-process. The same model
(`Bpmn.Model.Completion`) decides it, at the sub-process's own facts: `current_sub_completion` type-checks on both sides of
the fact; `current_sub_monitor_first` records which side holds and stops type-checking when the fact flips. -/
namespace Bpmn.Props.C12
open Bpmn.Model.Completion Bpmn.Props.C02

/-- the completion facts of a sub-process activation: monitor order from subprocess.go, one monitor per activation
(never one per start event), the channel capacities and trace order of the shared code -/
def subFacts : Facts :=
  { Bpmn.Props.C02.current with
    subBefore := (Bpmn.Gen.C12.subMonitorBeforeStart).get (by decide)
    perStart := false }

/-- the relay (the goroutine that forwards inner traces, task requests included, to the parent's tracer) subscribes to the
inner tracer before the inner flows start -/
theorem current_relay_first : Bpmn.Gen.C12.subRelayBeforeStart = some true := by decide

/-- activations of one sub-process node take turns in the code as they do in the engine model (`Engine.nextTurn`,
`Props/C12Turns`): the activation goroutine holds a mutex of the node from before its relay subscribes until it is done.
When this stops type-checking the model's waiting rule is no longer what the code does; the runner then looks for the failing
input with the families `c12turns` / `c09turns` (two tokens forked into one sub-process node). -/
theorem current_activations_take_turns : Bpmn.Gen.C12.subActivationsTakeTurns = some true := by decide

/-- **The inner completion of a sub-process activation.** Monitor subscribed first: the whole C02 statement holds for the
inner instance with one start event (the inner cease-flow trace — on which the parent token continues — is emitted
exactly once, after every inner trace, and within bounded steps once no inner token is left). Otherwise: the explicit
schedule on which the monitor misses the inner start event and the parent waits for ever. -/
theorem current_sub_completion :
    if subFacts.subBefore = true ∧ 1 ≤ subFacts.sigCap ∧ 1 ≤ subFacts.subBuf ∧ subFacts.detached = false
    then C02_statementFor (subFacts.at 1) else (subFacts.subBefore = false → MissedStartWitness (subFacts.at 1)) := by
  split
  · next h => exact C02_single_start_partial subFacts h.1 h.2.1 h.2.2.1 h.2.2.2
  · next _ => exact fun h => missed_start_at subFacts h

/-- the positive side is the one that holds -/
theorem current_sub_monitor_first : subFacts.subBefore = true := by decide

end Bpmn.Props.C12
