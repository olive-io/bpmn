import Bpmn.Props.C16
import Bpmn.Gen.C16
/-! C16 instantiated at the facts extracted from the current /repo tree (`Bpmn.Gen.C16`, regenerated on
every run). Every theorem here is a dichotomy that type-checks whichever way the facts point, so a repair
of /repo never breaks this module; what it proves then changes from the witness side to the positive side.
If the extractor cannot read a fact (`none`), `current` does not elaborate and the module fails to build.

Each proof opens with `cases h : <side condition>`, which leaves the condition abstract. `split`, or a term applied
against the expected `if … then … else …`, makes the elaborator reduce that `if` to weak head normal form, that is,
evaluate the side condition on `current` outside the kernel. -/
namespace Bpmn.Props.C16
open Bpmn.Model.Value

def current : Cfg :=
  (cfgOf Bpmn.Gen.C16.inferredSwitch Bpmn.Gen.C16.declaredIntKinds Bpmn.Gen.C16.declaredFloatSixDecimals
    Bpmn.Gen.C16.declaredFloatWidened Bpmn.Gen.C16.nilGuardArray Bpmn.Gen.C16.nilGuardObject
    Bpmn.Gen.C16.nilGuardValuePtr).get (by decide)

/-- C16 on the current facts: holds, or is false with the witnesses of `C16_cex` -/
theorem current_verdict : if C16ok current = true then C16_statement current else ¬ C16_statement current := by
  cases h : C16ok current
  · exact C16_cex _ h
  · exact C16_general _ h

/-- unsigned integers as variables / results / data objects -/
theorem current_unsigned :
    if unsignedKinds.all (kindOk current) = true then
      ∀ (C : Codec), C.Lawful → ∀ (k : IntKind) (n : Int), k.signed = false → -9223372036854775808 ≤ n →
        n ≤ 9223372036854775807 → survives C (newValue current C (.int k n)) (.int k n)
    else ∃ k ∈ unsignedKinds, ¬ survives Codec.ideal (newValue current Codec.ideal (sample k)) (sample k) := by
  cases h : unsignedKinds.all (kindOk current)
  · exact unsigned_witness current h
  · exact fun C hC k n => unsigned_survive current h C hC k n

/-- nil under a declared array / object type, nil `*schema.Value`, olive property references -/
theorem current_panics :
    if panicFree current = true then
      (∀ (C : Codec) (iv : Value C.T) (v : GoVal), ∃ val, valueFrom current C iv v = .ok val) ∧
      (∀ (C : Codec) (s : Store C.T) (ty : ItemType) (ref : Text), ∃ val, fetchProperty current C s ty ref = .ok val)
    else ∀ (C : Codec), ∃ p, valueFrom current C (Value.empty C.T (panicWitness current).1) (panicWitness current).2 = .error p := by
  cases h : panicFree current
  · exact panics_of_not_panicFree current h
  · exact ⟨no_panic current h, fetchProperty_safe current h⟩

/-- a float under the declared float type -/
theorem current_float :
    if floatFaithful current = true then
      ∀ (C : Codec), C.Lawful → ∀ (b : Bool) (f : F64) (s : Text), F64.wf f = true →
        (∀ k ∈ intKinds, current.declInt.contains k = true) →
        survives C (valueFrom current C (Value.empty C.T .float) (.float b f s)) (.float b f s)
    else (current.floatSix = true ∧
            ¬ survives Codec.ideal (valueFrom current Codec.ideal (Value.empty _ .float) (.float false tiny tiny.g)) (.float false tiny tiny.g))
         ∨ (current.floatSix = false ∧ current.floatWide = false ∧
            ¬ survives Codec.ideal (valueFrom current Codec.ideal (Value.empty _ .float) (.float true tenth32 "0.1".toList))
              (.float true tenth32 "0.1".toList)) := by
  cases h : floatFaithful current
  · exact float_loses current h _
  · exact fun C hC b f s hw _ =>
      declared_load_plain current hC (.float b f s hw) rfl (fun _ _ e => nomatch e) (fun _ => h)

/-- everything the facts as found handled correctly is still handled correctly (a kind removed from a
switch, a changed accessor, a dropped integer kind make this fail to build) -/
def noRegression (cfg : Cfg) : Bool :=
  [Kind.bool, .int, .int8, .int16, .int32, .int64, .float32, .float64, .string, .slice, .map, .struct].all (kindOk cfg)
  && intKinds.all (cfg.declInt.contains ·)
  && allKinds.all (fun k => !badKind cfg k || k.isUnsigned)

theorem current_no_regression : noRegression current = true := by decide +kernel

end Bpmn.Props.C16
