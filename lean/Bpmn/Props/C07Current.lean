import Bpmn.Props.C07
import Bpmn.Model.CancelCurrent
/-!
C07 on the tables extracted from the current /repo tree (`Bpmn.Gen.C07`, regenerated on every run).

The goroutine table and the blocking-operation table are turned into a `List Kind`. Every theorem here is a
dichotomy that builds on either side of a repair: where a row meets the side conditions of `cancel_drains` it gets
the positive statement, where it does not it gets the stuck witness of `Props/C07.lean` (`KindFails`); each is
proved there for every table and only instantiated here, so no table is evaluated for it. What is evaluated, in
the kernel, are the Boolean obligations. `current_no_regression` is the obligation that breaks when
a row that is fine today loses its cancellation alternative, its buffered reply or its registration, when a
goroutine body the model knows disappears, or when the extractor cannot read a table (`none`).
The tables themselves and the justification list are in `Model/CancelCurrent.lean`.
-/
namespace Bpmn.Props.C07
open Bpmn.Model.Cancel Bpmn.Model.CancelCurrent

/-- `Done()` is never called on a handle that was not registered (the Go runtime would panic) -/
theorem current_done_implies_registered : ∀ k ∈ current, k.callsDone = true → k.registered = true := by
  have h : current.all (fun k => !k.callsDone || k.registered) = true := by decide
  intro k hk hd
  have := List.all_eq_true.mp h k hk
  rw [hd] at this
  exact this

/-- C07 at the current tables: the protocol statement, or a named row with its stuck witness (or the request does
not carry the loop's context) -/
theorem current_verdict :
    if C07ok current carries = true then C07_statement current carries
    else (∃ k ∈ current, k.ok = false ∧ KindFails k) ∨
         (carries = false ∧ ∃ evs s', trun false {} [.enqueue, .cancel, .recv] = some (s', evs) ∧
            validEvs false false evs = false) := by
  -- applied to the concrete table directly, `verdict` makes the elaborator normalise the `if`, that is, evaluate it
  have hnp := current_done_implies_registered
  revert hnp
  generalize current = t, carries = c
  exact verdict t c

/-- every row of the current table: the single-kind protocol drains, or the row has a stuck witness -/
theorem current_rows : ∀ k ∈ current, if k.ok = true then Drains [k] else KindFails k :=
  fun k hk => kind_dichotomy k (current_done_implies_registered k hk)

/-- the rows of one goroutine body at one operation, for any tables: all passable, or the kind of a registered go
site running that body has the parked-for-ever witness -/
theorem row_dichotomy (gs : List GoRow) (ops : List OpRow) (site body : String) (key : String × String × String)
    (hkind : key.2.1 ≠ "wgwait")
    (hsite : gs.any (fun g => g.site == site && g.body == body && g.registered) = true) :
    if (ops.filter (fun r => r.body == body && r.key == key)).all (fun r => (opOf r).passable) = true then True
    else ∃ k ∈ tableOf gs ops, k.name = site ∧ k.registered = true ∧ KindFails k := by
  split
  · trivial
  · next h =>
    obtain ⟨r, hr, hp⟩ := List.all_eq_false.1 (Bool.eq_false_iff.2 h)
    obtain ⟨g, hg, hb⟩ := List.any_eq_true.1 hsite
    obtain ⟨hrops, hrb⟩ := List.mem_filter.1 hr
    simp only [Bool.and_eq_true, beq_iff_eq] at hb hrb
    refine ⟨kindOf ops g, List.mem_map.2 ⟨g, hg, rfl⟩, hb.1.1, hb.2, ?_⟩
    refine parked_operation_leaks _ (opOf r) (List.mem_map.2 ⟨r, List.mem_filter.2 ⟨hrops, ?_⟩, rfl⟩)
      (Bool.eq_false_iff.2 hp)
    have hk : r.kind = key.2.1 := congrArg (·.2.1) hrb.2
    rw [hrb.1, hb.1.2, beq_self_eq_true, Bool.true_and, isActorOp, hk]
    exact bne_iff_ne.2 hkind

/-- **D20** (and its siblings): the goroutines of the generic task and the sub-process, named by the BODY they run
(the numbering of go sites moves when a `go` statement is added or moved) — registered, hence drains; or the leak
witness -/
def d20Bodies : List String := ["genericTask.run", "genericTask.run$1", "subProcess.run", "subProcess.run$1"]

theorem current_D20 : ∀ g ∈ goRows, g.body ∈ d20Bodies →
    if (!(kindOf opRows g).sends || (kindOf opRows g).registered) = true then
      ((kindOf opRows g).sends = true → (kindOf opRows g).registered = true)
    else KindFails (kindOf opRows g) :=
  fun g _ _ => sender_dichotomy (kindOf opRows g)

/-- **D22**: the token goroutine (`flow.Start$1`) and `harness.NextAction`'s receive `<-response`. Either that
receive has got a cancellation alternative / justified partner, or the flow kind has the parked-for-ever witness
(registered sender ⇒ the tracer never ends and polls for ever, `parked_registered_spins`). -/
def d22Key : String × String × String := ("harness.NextAction", "recv", "response")

def d22Rows : List OpRow := opRows.filter (fun r => r.body == "flow.Start$1" && r.key == d22Key)

theorem current_D22 :
    if d22Rows.all (fun r => (opOf r).passable) = true then True
    else ∃ k ∈ current, k.name = "flow.Start#1" ∧ k.registered = true ∧ KindFails k := by
  -- the flow site exists and is registered
  have hsite : goRows.any (fun g => g.site == "flow.Start#1" && g.body == "flow.Start$1" && g.registered) = true := by
    decide +kernel
  unfold d22Rows current
  revert hsite
  generalize goRows = gs, opRows = ops
  exact row_dichotomy gs ops _ _ d22Key (by decide)

theorem current_subprocess_tracer :
    if subTracerKind.ok = true then Drains [subTracerKind] else KindFails subTracerKind :=
  kind_dichotomy subTracerKind nofun

/-- goroutine bodies known to have been started without registration (D20 and its siblings, all repaired in /repo by
now; ProcessSet/timer/id rows are outside the sweep's corpus). Named by body, not by go-site number. -/
def expectedFailingSenders : List String := [
  "genericTask.run", "genericTask.run$1", "subProcess.run", "subProcess.run$1",
  "harness.run$1", "ProcessSet.run", "ProcessSet.tracerProcess",
  "Process.ceaseFlowMonitor$ret",   -- the completion monitor: handle from p.tracer, sent on p.subTracer
  "timer.eventDefinitionInstanceBuilder.NewEventDefinitionInstance$1", "id.Sno.RestoreIdGenerator$1"]

/-- operations that may fail the side condition without alarm: those found at some time with neither a cancellation
alternative nor a justified partner (an allow-list: most have been repaired in /repo since) -/
def expectedFailingOps : List (String × String × String) := [
  ("harness.NextAction", "recv", "_"),                      -- D22
  ("newHarness$lit$lit", "recv", "_.activity.Cancel()"),         -- same shape, at an interrupting boundary
  ("startEvent.run", "send", "_.response"),                        -- unbuffered reply to a token that may have left
  ("throwEvent.run", "send", "_.response"),
  ("eventBasedGateway.run", "send", "_.response"),
  ("catchEvent.run", "send", "_"),
  ("distributeFlows", "send", "_"),
  ("inclusiveGateway.trySync", "send", "_.activated.response"),
  ("eventBasedGateway.run$lit", "send", "_"),                     -- winner notifying a loser that may have left
  ("flowTracker.run", "select", "recv:_.traces|recv:_.shutdownCh"),
  ("tracing.tracer.run", "send", "_"),                    -- newFlowTracker subscribes and never unsubscribes
  ("timer.New$arg", "send", "_")]

/-- goroutine bodies the model's reading of the code relies on -/
def anchorBodies : List String := [
  "flow.Start$1", "harness.run", "genericTask.run", "genericTask.run$1", "subProcess.run", "subProcess.run$1",
  "startEvent.run", "endEvent.run", "catchEvent.run", "throwEvent.run", "parallelGateway.run",
  "exclusiveGateway.run", "inclusiveGateway.run", "eventBasedGateway.run", "flowTracker.run",
  "Process.ceaseFlowMonitor$ret", "subProcess.ceaseFlowMonitor$ret", "taskTrace.process",
  "tracing.tracer.run", "tracing.tracer.run$1", "tracing.NewRelay$1", "timer.dateTimeTimer"]

/-- every anchor body has at least one blocking operation with a cancellation alternative recorded, except the
ones that have none by design -/
def anchorsWithCancellableSelect : List String := [
  "flow.Start$1", "harness.run", "genericTask.run", "genericTask.run$1", "subProcess.run", "subProcess.run$1",
  "startEvent.run", "endEvent.run", "catchEvent.run", "throwEvent.run", "parallelGateway.run",
  "exclusiveGateway.run", "inclusiveGateway.run", "eventBasedGateway.run",
  "Process.ceaseFlowMonitor$ret", "subProcess.ceaseFlowMonitor$ret", "taskTrace.process",
  "tracing.tracer.run", "tracing.NewRelay$1", "timer.dateTimeTimer"]

def noRegression : Bool :=
  tablesFound
  && failingSenderBodies.all (expectedFailingSenders.contains ·)
  && failingOps.all (expectedFailingOps.contains ·)
  && unbalanced.isEmpty
  && anchorBodies.all (fun b => goRows.any (fun g => g.body == b))
  && anchorsWithCancellableSelect.all (fun b => opRows.any (fun r => r.body == b && r.kind == "select" && r.cancelAlt))
  && carries

/-- everything that is fine today is still fine: no row outside the known lists fails a side condition, every
registration is matched by a `Done()`, the bodies the model reads are there with their cancellable selects, and
task requests carry the run loop's context -/
theorem current_no_regression : noRegression = true := by decide +kernel

/-- every D20 body is started by some go statement of the table (`current_D20` is not vacuous): the D20 bodies are
among the anchor bodies, whose presence is part of the obligation above -/
theorem current_D20_present : d20Bodies.all (fun b => goRows.any (fun g => g.body == b)) = true := by
  have hsub : ∀ b ∈ d20Bodies, b ∈ anchorBodies := by decide +kernel
  have h := current_no_regression
  simp only [noRegression, Bool.and_eq_true] at h
  obtain ⟨⟨⟨_, hanchors⟩, _⟩, _⟩ := h
  exact List.all_eq_true.2 fun b hb => List.all_eq_true.1 hanchors b (hsub b hb)

/-- the post-cancel hot polling is where the model puts it: in the broadcaster (bounded by `tracer_spin_bounded`)
and in the relay (which ends when its source tracer is done), nowhere else -/
theorem current_hot_polls : hotPolls.all (fun p => [("tracing.tracer.run", "tracing.tracer.run"),
    ("tracing.NewRelay$1", "tracing.NewRelay$1")].contains p) = true := by decide

/-- the request side on the current fact -/
theorem current_requests :
    if carries = true then ∀ ls s' evs, trun carries {} ls = some (s', evs) → validEvs false false evs = true
    else ∃ evs s', trun false {} [.enqueue, .cancel, .recv] = some (s', evs) ∧ validEvs false false evs = false :=
  requests_dichotomy carries

end Bpmn.Props.C07
