import Bpmn.Model.Gateway
/-!
# C04 — Exclusive gateway routes each token to exactly one deterministic branch

Layer 0: `xgDecide` (the decision taken from a probing report). Layer 1: the gateway actor `XG` with its
per-token probing table, for any tokens and both arrival orders of {report, second next-action}.
-/
namespace Bpmn.Props.C04
open Bpmn.Model.Gateway

/-- the decision is the FIRST flow, in the gateway's outgoing order with the default removed, whose
condition is true … -/
theorem xgDecide_first_true (pre post : List (String × Bool)) (fl : String) (d : Option String)
    (hpre : ∀ x ∈ pre, x.2 = false) :
    xgDecide (pre ++ (fl, true) :: post) d = .take fl := by
  unfold xgDecide
  have : (pre ++ (fl, true) :: post).filter (·.2) = (fl, true) :: post.filter (·.2) := by
    rw [List.filter_append]
    have : pre.filter (·.2) = [] := by
      apply List.filter_eq_nil_iff.mpr
      intro x hx; simp [hpre x hx]
    simp [this]
  simp [this]

/-- … otherwise the default flow … -/
theorem xgDecide_default (nd : List (String × Bool)) (d : String) (h : ∀ x ∈ nd, x.2 = false) :
    xgDecide nd (some d) = .take d := by
  unfold xgDecide
  have : nd.filter (·.2) = [] := by
    apply List.filter_eq_nil_iff.mpr
    intro x hx; simp [h x hx]
  simp [this]

/-- … and with no default, no flow at all and an error. -/
theorem xgDecide_error (nd : List (String × Bool)) (h : ∀ x ∈ nd, x.2 = false) :
    xgDecide nd none = .error := by
  unfold xgDecide
  have : nd.filter (·.2) = [] := by
    apply List.filter_eq_nil_iff.mpr
    intro x hx; simp [h x hx]
  simp [this]

/-- exactly one outcome, and never a flow whose condition is false (unless it is the default) -/
theorem xgDecide_sound (nd : List (String × Bool)) (d : Option String) (fl : String)
    (h : xgDecide nd d = .take fl) : (fl, true) ∈ nd ∨ (d = some fl ∧ ∀ x ∈ nd, x.2 = false) := by
  unfold xgDecide at h
  cases hf : (nd.filter (·.2)).head? with
  | some x =>
    obtain ⟨a, b⟩ := x
    simp only [hf] at h
    have hmem : (a, b) ∈ nd.filter (·.2) := List.mem_of_head? hf
    have := List.mem_filter.mp hmem
    left
    have hb : b = true := by simpa using this.2
    cases h
    rw [hb] at this
    exact this.1
  | none =>
    simp only [hf] at h
    have hnil : nd.filter (·.2) = [] := by simpa using hf
    right
    cases d with
    | none => cases h
    | some d' =>
      cases h
      refine ⟨rfl, ?_⟩
      intro x hx
      have := List.filter_eq_nil_iff.mp hnil x hx
      simpa using this

/-- removing the default from the outgoing list keeps the order of the remaining flows, wherever the
default sits: the position of the default does not influence which conditional flow is first -/
theorem nonDefault_order (outs : List String) (d : String) :
    List.Sublist (outs.filter (· ≠ d)) outs := List.filter_sublist

theorem find?_filter_ne {α β : Type _} [BEq β] [LawfulBEq β] (f : α → β) (l : List α) (k : β) :
    (l.filter (fun x => f x != k)).find? (fun x => f x == k) = none :=
  List.find?_eq_none.mpr fun x hx => by simpa [bne] using (List.mem_filter.mp hx).2

theorem lookup_put_self (g : XG) (t : Nat) (b : Bool) : (g.put t b).lookup t = some b := by
  simp [XG.lookup, XG.put, XG.erase, List.find?_append, find?_filter_ne (·.1) g.probing t]

theorem lookup_erase_self (g : XG) (t : Nat) : (g.erase t).lookup t = none := by
  simp [XG.lookup, XG.erase, find?_filter_ne (·.1) g.probing t]

theorem find_filter_ne (l : List (Nat × Bool)) (t u : Nat) (h : u ≠ t) :
    (l.filter (·.1 != t)).find? (·.1 == u) = l.find? (·.1 == u) := by
  induction l with
  | nil => rfl
  | cons x xs ih =>
    by_cases hx : x.1 = t
    · have e1 : (x.1 != t) = false := by simp [hx]
      have e2 : (x.1 == u) = false := by
        have : ¬ (x.1 = u) := by omega
        simpa using this
      simp only [List.filter_cons, e1, List.find?_cons, e2, Bool.false_eq_true, if_false, ih]
    · have e1 : (x.1 != t) = true := by simpa using hx
      simp only [List.filter_cons, e1, if_true, List.find?_cons, ih]

theorem lookup_erase_other (g : XG) (t u : Nat) (h : u ≠ t) : (g.erase t).lookup u = g.lookup u := by
  unfold XG.lookup XG.erase
  simp only [find_filter_ne g.probing t u h]

theorem lookup_put_other (g : XG) (t u : Nat) (b : Bool) (h : u ≠ t) : (g.put t b).lookup u = g.lookup u := by
  have h1 := lookup_erase_other g t u h
  unfold XG.put
  unfold XG.lookup at h1 ⊢
  simp only [List.find?_append]
  have hne : ¬ (t = u) := fun e => h e.symm
  cases hf : List.find? (fun x => x.1 == u) (g.erase t).probing with
  | some x => rw [hf] at h1; simp [← h1]
  | none => rw [hf] at h1; simp [← h1, hne]

theorem step_na_fresh (g : XG) (t : Nat) (h : g.lookup t = none) :
    g.step (.na t) = (g.put t false, [.probe t], []) := by simp [XG.step, h]
theorem step_na_again (g : XG) (t : Nat) (b : Bool) (h : g.lookup t = some b) :
    g.step (.na t) = (g.put t true, [], []) := by simp [XG.step, h]
theorem step_report_ready (g : XG) (t : Nat) (res) (h : g.lookup t = some true) :
    g.step (.report t res) = (g.erase t, [.reply t (xgDecide res g.dflt)], []) := by simp [XG.step, h]
theorem step_report_early (g : XG) (t : Nat) (res) (h : g.lookup t = some false) :
    g.step (.report t res) = (g, [], [.report t res]) := by simp [XG.step, h]
theorem put_dflt (g : XG) (t : Nat) (b : Bool) : (g.put t b).dflt = g.dflt := rfl

/-- a message of token `t` never touches another token's probing entry, and only produces outputs and
re-queued messages of `t`: tokens pass through the gateway independently -/
theorem xg_step_independent (g : XG) (m : XMsg) (u : Nat) (h : u ≠ m.tok) :
    (g.step m).1.lookup u = g.lookup u ∧ (∀ o ∈ (g.step m).2.1, o.tok = m.tok) ∧
    (∀ q ∈ (g.step m).2.2, q.tok = m.tok) ∧ (g.step m).1.dflt = g.dflt := by
  cases m with
  | na t =>
    simp only [XMsg.tok] at h ⊢
    cases hl : g.lookup t with
    | some b =>
      rw [step_na_again g t b hl]
      exact ⟨lookup_put_other g t u true h, by simp, by simp, rfl⟩
    | none =>
      rw [step_na_fresh g t hl]
      exact ⟨lookup_put_other g t u false h, by simp [XOut.tok], by simp, rfl⟩
  | report t res =>
    simp only [XMsg.tok] at h ⊢
    cases hl : g.lookup t with
    | none =>
      have : g.step (.report t res) = (g, [], []) := by simp [XG.step, hl]
      rw [this]; exact ⟨rfl, by simp, by simp, rfl⟩
    | some b =>
      cases b with
      | true =>
        rw [step_report_ready g t res hl]
        exact ⟨lookup_erase_other g t u h, by simp [XOut.tok], by simp, rfl⟩
      | false =>
        rw [step_report_early g t res hl]
        exact ⟨rfl, by simp, by simp [XMsg.tok], rfl⟩

/-- order A: next-action, next-action, report -/
theorem xg_single_na_na_report (g : XG) (t : Nat) (res : List (String × Bool)) (h : g.lookup t = none) :
    let r := g.run 10 [.na t, .na t, .report t res] []
    r.2 = [.probe t, .reply t (xgDecide res g.dflt)] ∧ r.1.lookup t = none := by
  have s1 := step_na_fresh g t h
  have s2 := step_na_again (g.put t false) t false (lookup_put_self g t false)
  have s3 := step_report_ready ((g.put t false).put t true) t res (lookup_put_self _ t true)
  simp only [XG.run, s1, s2, s3, List.nil_append, List.append_nil, List.cons_append, put_dflt]
  exact ⟨trivial, lookup_erase_self _ t⟩

/-- order B: next-action, report (finds no reply channel, is re-queued), next-action, report -/
theorem xg_single_na_report_na (g : XG) (t : Nat) (res : List (String × Bool)) (h : g.lookup t = none) :
    let r := g.run 10 [.na t, .report t res, .na t] []
    r.2 = [.probe t, .reply t (xgDecide res g.dflt)] ∧ r.1.lookup t = none := by
  have s1 := step_na_fresh g t h
  have s2 := step_report_early (g.put t false) t res (lookup_put_self g t false)
  have s3 := step_na_again (g.put t false) t false (lookup_put_self g t false)
  have s4 := step_report_ready ((g.put t false).put t true) t res (lookup_put_self _ t true)
  simp only [XG.run, s1, s2, s3, s4, List.nil_append, List.append_nil, List.cons_append, put_dflt]
  exact ⟨trivial, lookup_erase_self _ t⟩

/-- the full statement of C04 on the model -/
def C04_statement : Prop :=
  (∀ pre post fl d, (∀ x ∈ pre, x.2 = false) → xgDecide (pre ++ (fl, true) :: post) d = .take fl) ∧
  (∀ nd d, (∀ x ∈ nd, x.2 = false) → xgDecide nd (some d) = .take d) ∧
  (∀ nd, (∀ x ∈ nd, x.2 = false) → xgDecide nd none = .error) ∧
  (∀ (g : XG) (m : XMsg) (u : Nat), u ≠ m.tok →
      (g.step m).1.lookup u = g.lookup u ∧ (∀ o ∈ (g.step m).2.1, o.tok = m.tok)) ∧
  (∀ (g : XG) t res, g.lookup t = none →
      (g.run 10 [.na t, .na t, .report t res] []).2 = [.probe t, .reply t (xgDecide res g.dflt)] ∧
      (g.run 10 [.na t, .report t res, .na t] []).2 = [.probe t, .reply t (xgDecide res g.dflt)])

theorem C04_holds : C04_statement :=
  ⟨xgDecide_first_true, xgDecide_default, xgDecide_error,
   fun g m u h => ⟨(xg_step_independent g m u h).1, (xg_step_independent g m u h).2.1⟩,
   fun g t res h => ⟨(xg_single_na_na_report g t res h).1, (xg_single_na_report_na g t res h).1⟩⟩

example : xgDecide [("f1", false), ("f2", true), ("f3", true)] (some "d") = .take "f2" := by decide
example : xgDecide [("f1", false)] none = .error := by decide

end Bpmn.Props.C04
