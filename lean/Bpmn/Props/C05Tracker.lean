import Bpmn.Lemmas.InclTracker
/-!
# C05 (join, tracker level) — the inclusive join decides on a PREFIX of the trace order

Model: `Bpmn.Model.InclTracker` (port of `flowTracker.handleTrace` / `activeFlowsInCohort` and of the gateway's
`nextActionMessage` / `trySync`), the tracker's progress explicit as the length of the prefix it has processed.

* With the tracker caught up (`fresh`), a fork activation of any size arriving in any order releases the join exactly
  once, at the last arrival, with all tokens — `fresh_view_join_correct`, `fresh_view_no_early_release`.
* The start-up lock of the tracker guarantees that for the FIRST activation (`first_activation_view`).
* Nothing guarantees it afterwards: a join re-entered in a loop that reads the map one `FlowTrace` too early fires for
  the first token alone and again for the second — `C05_counterexample_stale_view` (D33, reproduced on the engine:
  known finding `inclusive_join_stale_tracker`).
* A token that ended without a termination trace stays in the cohort of the fork's next activation and its join never
  fires (D42) — `stale_token_blocks_join`, `term_cleans`; on one history `C05_counterexample_silent_exit`.
-/
namespace Bpmn.Props.C05
open Bpmn.Model.InclTracker

theorem join_waits (log : List Tr) (a : Nat) (fired : List (List Nat)) (u : Nat) (hu : u ∈ cohort (track log) a) :
    ∀ (p done : List Nat), u ∉ done ++ p →
      ({ activated := some a, arrived := done, fired := fired } : Join).arriveAllFresh log p =
        { activated := some a, arrived := done ++ p, fired := fired }
  | [], done, _ => by rw [List.append_nil]; rfl
  | t :: p, done, hn => by
    have hn' : u ∉ (done ++ [t]) ++ p := by rwa [List.append_assoc]
    rw [Join.arriveAllFresh, arrive_waits log a fired done t u hu fun h => hn' (List.mem_append_left _ h),
      join_waits log a fired u hu p _ hn', List.append_assoc]
    rfl

/-- **The join on one up-to-date picture.** Tokens `a :: rest` (any number ≥ 1, any order) whose common cohort is exactly
these: the idle join fires exactly once, when the last of them has arrived, releasing all of them. -/
theorem join_fires_once (log : List Tr) (a : Nat) (rest : List Nat)
    (hC : ∀ x, x ∈ cohort (track log) a ↔ x ∈ a :: rest) (hnd : (a :: rest).Nodup) (fired : List (List Nat)) :
    (({ fired := fired } : Join).arriveAllFresh log (a :: rest)) =
      { activated := none, arrived := [], fired := fired ++ [a :: rest] } := by
  -- all arrivals but the last miss the last; the last completes the cohort
  obtain ⟨init, last, e⟩ : ∃ init last, a :: rest = init ++ [last] :=
    ⟨_, _, (List.dropLast_concat_getLast (List.cons_ne_nil a rest)).symm⟩
  rw [arriveAllFresh_idle]
  rw [e] at hC hnd ⊢
  have hlast : last ∉ [] ++ init := fun h => (List.nodup_append.mp hnd).2.2 last h last (List.mem_singleton_self _) rfl
  rw [arriveAllFresh_append,
    join_waits log a fired last ((hC last).mpr (List.mem_append_right _ (List.mem_singleton_self _))) init [] hlast]
  exact arrive_fires log a fired _ last fun x hx => (hC x).mp hx

theorem cohort_after_fork (log0 : List Tr) (src : Nat) (toks : List (Nat × Nat)) (a : Nat) (ha : a ∈ toks.map (·.1))
    (x : Nat) : x ∈ cohort (track (log0 ++ [.flow src true toks])) a ↔
      x ∈ toks.map (·.1) ∨ (track log0).get? x = some src := by
  rw [mem_cohort _ (nodupKeys_track _), track_append]
  simp only [get?_step_flow_incl, ha, if_true, Option.some.injEq, exists_eq_left']
  split
  · next hx => exact ⟨fun _ => .inl hx, fun _ => rfl⟩
  · next hx => exact ⟨.inr, fun h => h.elim (absurd · hx) id⟩

/-- **A fork activation of any size, tracker caught up ⇒ exactly one release, with all tokens, at the last arrival**
(whatever the order of arrival, whatever else the log holds) — provided no token of an earlier activation of the same
fork is still recorded with it (`hclean`). -/
theorem fresh_view_join_correct (log0 : List Tr) (src : Nat) (toks : List (Nat × Nat)) (a : Nat) (rest : List Nat)
    (hclean : ∀ x, (track log0).get? x = some src → x ∈ toks.map (·.1))
    (harr : ∀ x, x ∈ a :: rest ↔ x ∈ toks.map (·.1)) (hnd : (a :: rest).Nodup) (fired : List (List Nat)) :
    (({ fired := fired } : Join).arriveAllFresh (log0 ++ [.flow src true toks]) (a :: rest)) =
      { activated := none, arrived := [], fired := fired ++ [a :: rest] } := by
  refine join_fires_once _ a rest (fun x => ?_) hnd fired
  rw [cohort_after_fork log0 src toks a ((harr a).mp (List.mem_cons_self ..)), harr]
  exact ⟨fun h => h.elim id (hclean x), .inl⟩

/-- … and nothing before: after any proper, non-empty part of the arrivals the join has released nothing -/
theorem fresh_view_no_early_release (log0 : List Tr) (src : Nat) (toks : List (Nat × Nat)) (a : Nat) (p q : List Nat)
    (hq : q ≠ [])
    (hclean : ∀ x, (track log0).get? x = some src → x ∈ toks.map (·.1))
    (harr : ∀ x, x ∈ a :: (p ++ q) ↔ x ∈ toks.map (·.1)) (hnd : (a :: (p ++ q)).Nodup) (fired : List (List Nat)) :
    (({ fired := fired } : Join).arriveAllFresh (log0 ++ [.flow src true toks]) (a :: p)).fired = fired := by
  obtain ⟨u, us, rfl⟩ := List.exists_cons_of_ne_nil hq
  have ha : a ∈ toks.map (·.1) := (harr a).mp (List.mem_cons_self ..)
  have hu : u ∈ a :: (p ++ u :: us) := List.mem_cons_of_mem _ (List.mem_append_right _ (List.mem_cons_self ..))
  have hnu : u ∉ [] ++ a :: p := fun h =>
    (List.nodup_append.mp (List.cons_append ▸ hnd : ((a :: p) ++ u :: us).Nodup)).2.2 u h u (List.mem_cons_self ..) rfl
  rw [arriveAllFresh_idle, join_waits _ a fired u ((cohort_after_fork log0 src toks a ha u).mpr (.inl ((harr u).mp hu))) (a :: p) [] hnu]

/-! ### D42 in the tracker's terms: why a token that ends WITHOUT a termination trace blocks every later activation

`hclean` above is not a technicality. A token `z` that is still recorded with the fork as its origin — it ended by an error
answer whose handler says exit (or by a used-up retry budget) and, before the repair of D42, sent no `TerminationTrace` — is
in the cohort of every token of the fork's NEXT activation, and since it never arrives the join never fires. A termination
trace removes it. -/

/-- a token left over from an earlier activation is in the cohort of every token of the next one -/
theorem stale_token_in_cohort (log0 : List Tr) (src : Nat) (toks : List (Nat × Nat)) (z a : Nat)
    (hz : (track log0).get? z = some src) (hzn : z ∉ toks.map (·.1)) (ha : a ∈ toks.map (·.1)) :
    z ∈ cohort (track (log0 ++ [.flow src true toks])) a :=
  (cohort_after_fork log0 src toks a ha z).mpr (.inr hz)

/-- **… and the join of that activation never fires**: all tokens of the new activation arrive (any order, the tracker
caught up), the stale one never does — nothing is released. -/
theorem stale_token_blocks_join (log0 : List Tr) (src : Nat) (toks : List (Nat × Nat)) (z a : Nat) (rest : List Nat)
    (hz : (track log0).get? z = some src) (hzn : z ∉ toks.map (·.1))
    (hclean : ∀ x, (track log0).get? x = some src → x = z ∨ x ∈ toks.map (·.1))
    (harr : ∀ x, x ∈ a :: rest ↔ x ∈ toks.map (·.1)) (hnd : (a :: rest).Nodup) (fired : List (List Nat)) :
    (({ fired := fired } : Join).arriveAllFresh (log0 ++ [.flow src true toks]) (a :: rest)) =
      { activated := some a, arrived := a :: rest, fired := fired } :=
  join_waits _ a fired z (stale_token_in_cohort log0 src toks z a hz hzn ((harr a).mp (List.mem_cons_self ..))) (a :: rest) []
    fun h => hzn ((harr z).mp h)

/-- the termination trace is what takes the token out of the picture -/
theorem term_cleans (log0 : List Tr) (z : Nat) : (track (log0 ++ [.term z])).get? z = none := by
  rw [track_append]
  exact get?_del_self _ z

/-- **The tracker's start-up lock** (`reachedNode`): the gateway can read the map only once the tracker has seen a flow
INTO the gateway. If the only such `FlowTrace` so far is the one at position `i` (first activation: the trace that
announces the arriving token), the picture the gateway reads contains it. -/
theorem first_activation_view (gw : Nat) (log : List Tr) (view i : Nat)
    (hreached : reached gw (log.take view) = true)
    (honly : ∀ k tr, log[k]? = some tr → k ≠ i → reached gw [tr] = false) : i < view := by
  obtain ⟨tr, hmem, htr⟩ := List.any_eq_true.mp hreached
  obtain ⟨k, hk, rfl⟩ := List.mem_take_iff_getElem.mp hmem
  have hkv : k < view ∧ k < log.length := Nat.lt_min.mp hk
  by_cases hki : k = i
  · exact hki ▸ hkv.1
  · have := honly k _ (List.getElem?_eq_getElem hkv.2) hki
    rw [reached, List.any_cons, List.any_nil, Bool.or_false, htr] at this
    cases this

/-- the recorded history of the engine, reduced to what the tracker sees: fork `6` (inclusive) → join `7` directly on
two flows; join → `9` → … → fork again (a loop). First activation tokens 1, 2; token 1 is consumed, token 2 goes round
and the fork announces tokens 2, 3. -/
def loopLog : List Tr :=
  [.flow 6 true [(1, 7), (2, 7)], .term 1, .flow 7 true [(2, 9)], .flow 9 false [(2, 8)], .flow 8 false [(2, 6)],
   .flow 6 true [(2, 7), (3, 7)]]

/-- first activation with the tracker caught up, then token 2 arrives again having been announced by `loopLog[5]` -/
def reentry (viewOfSecond : Nat) : Join :=
  let j1 := (({} : Join).arrive loopLog 1 1).arrive loopLog 1 2        -- first activation: both on the first picture
  let j2 := j1.arrive loopLog viewOfSecond 2                            -- token 2 comes round
  -- if it was released alone it has left through the join (`flow 7 [(2, 9)]`) before token 3 arrives
  let log' := if j2.activated.isNone then loopLog ++ [.flow 7 true [(2, 9)]] else loopLog
  j2.arrive log' log'.length 3

/-- **Counterexample (D33).** When the join reads the tracker one `FlowTrace` too early (picture of length 5: the
fork's second announcement not yet processed), token 2's cohort is itself — recorded with the join as origin by the
join's own `FlowTrace` of the first activation — and the join fires for token 2 alone and again for token 3; with the
tracker caught up it fires once for both. Exactly the history recorded on the engine. -/
theorem C05_counterexample_stale_view :
    (reentry 5).fired = [[1, 2], [2], [3]] ∧ (reentry 6).fired = [[1, 2], [2, 3]] := by
  decide

/-- the hypotheses of `fresh_view_join_correct` are met by the second activation of `loopLog` (non-vacuity) -/
example : (∀ x, (track (loopLog.take 5)).get? x = some 6 → x ∈ [(2, 7), (3, 7)].map (·.1)) ∧
    loopLog = loopLog.take 5 ++ [.flow 6 true [(2, 7), (3, 7)]] := by
  refine ⟨?_, by decide⟩
  intro x hx
  have : track (loopLog.take 5) = [(2, 7)] := by decide
  rw [this, Map.get?, List.lookup_cons] at hx
  cases h : x == 2 <;> rw [h] at hx <;> cases hx

/-- the history of D42 as the tracker sees it: fork `6` announces tokens 1 → task `4`, 2 → join `7`; task 4's token ends
by an error answer (exit). Before the repair nothing is traced for it (`traced = false`); after it, `term 1` is. Token 2 is
released… and the next round's tokens 2, 3 are announced by the fork. -/
def exitLog (traced : Bool) : List Tr :=
  [.flow 6 true [(1, 4), (2, 7)]] ++ (if traced then [.term 1] else []) ++
  [.flow 8 false [(2, 6)], .flow 6 true [(2, 7), (3, 7)]]

/-- **D42, concretely** (a test, by `decide`): with the silent ending the second activation's join holds both tokens for
ever; with the termination traced it fires. The general statement is `stale_token_blocks_join`. -/
theorem C05_counterexample_silent_exit :
    (({} : Join).arriveAllFresh (exitLog false) [2, 3]).fired = [] ∧
    (({} : Join).arriveAllFresh (exitLog true) [2, 3]).fired = [[2, 3]] := by
  decide

/-- the hypotheses of `stale_token_blocks_join` are met by `exitLog false` (non-vacuity) -/
example : (track ((exitLog false).take 2)).get? 1 = some 6 ∧ (1 : Nat) ∉ [(2, 7), (3, 7)].map (·.1) ∧
    exitLog false = (exitLog false).take 2 ++ [.flow 6 true [(2, 7), (3, 7)]] := by decide

end Bpmn.Props.C05
