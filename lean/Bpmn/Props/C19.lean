import Bpmn.Lemmas.Builder
import Bpmn.Lemmas.BuilderLayout
/-!
# C19 — Builder output is well-formed and laid out without overlap

Model: `Bpmn.Model.Builder` (port of schema/builder.go). Build scripts are lists of
`AddActivity` calls `(kind, preset id or none)` of ANY length; `o : Nat → Nat` is the id oracle (`o k` = what
the k-th `RandBytes` call returns); the layout theorems hold for ANY list of processes (not only built ones),
any origin and any gaps that are at least the node sizes.

`st : Kind → Bool` is the type switch of `AddActivity` (which activity types it stores). It is a FACT read from the
source on every run; every theorem here holds for every `st`, as a dichotomy: the full statement holds iff the
switch stores every activity type (`C19_general`), and for any type it does not store there is an explicit
witness script (`C19_counterexample_activity_not_stored`). `Props/C19Current.lean` instantiates both sides at
the extracted switch.

What is NOT here (tested by the harness on the real code, not proved): the XML round trip and the engine run.
-/
namespace Bpmn.Props.C19
open Bpmn.Model.Builder Bpmn.Lemmas.Builder Bpmn.Lemmas.BuilderLayout

abbrev Acts := List (Kind × Option Nat)

def Injective (o : Nat → Nat) : Prop := ∀ a b, o a = o b → a = b

/-- anything `AddActivity` can be handed: every kind but the two events the builder adds itself -/
def isActivity (k : Kind) : Prop := k ≠ .startEvent ∧ k ≠ .endEvent

def presetsDistinct (acts : Acts) : Prop := (acts.filterMap (·.2)).Nodup

/-- ids unique; both ends of every flow exist and list it; start has no incoming, end no outgoing flow -/
def WellFormed (p : Proc) : Prop :=
  p.ids.Nodup ∧
  (∀ f ∈ p.flows, (∃ s ∈ p.nodes, s.id = f.src ∧ f.id ∈ s.outgoing) ∧
    (∃ t ∈ p.nodes, t.id = f.tgt ∧ f.id ∈ t.incoming)) ∧
  (∀ nd ∈ p.nodes, nd.kind = .startEvent → nd.incoming = []) ∧
  (∀ nd ∈ p.nodes, nd.kind = .endEvent → nd.outgoing = [])

def flowsClosed (p : Proc) : Prop :=
  ∀ f ∈ p.flows, f.src ∈ p.nodes.map (·.id) ∧ f.tgt ∈ p.nodes.map (·.id)

/-- the edge starts on the border of its source shape and ends on the border of its target shape -/
def edgeAttached (shapes : List Shape) (e : Edge) : Prop :=
  ∃ s ∈ shapes, ∃ t ∈ shapes, s.elem = e.src ∧ t.elem = e.tgt ∧
    ∃ a b, e.wps.head? = some a ∧ e.wps.getLast? = some b ∧ onBorder s a = true ∧ onBorder t b = true

instance (acts : Acts) : Decidable (presetsDistinct acts) := by unfold presetsDistinct; infer_instance
instance (p : Proc) : Decidable (flowsClosed p) := by unfold flowsClosed; infer_instance
instance (cfg : Cfg) : Decidable (GapsCover cfg) := by unfold GapsCover; infer_instance

/-- the processes a list of scripts builds (each script starts at its own value of the call counter) -/
abbrev built (st : Kind → Bool) (o : Nat → Nat) (scripts : List (Nat × Acts)) : List Proc :=
  builtProcs st o scripts

/-- the scripts run one after the other (`Chained`: each starts where the previous build ended, or later) and
their preset ids are pairwise distinct across all of them -/
def Sequential (st : Kind → Bool) (o : Nat → Nat) (scripts : List (Nat × Acts)) : Prop :=
  Chained st o 0 scripts ∧ (presetsOf scripts).Nodup

/-- ids of everything inside the processes (process ids, flow nodes, sequence flows) -/
def procIds (procs : List Proc) : List Id := procs.flatMap Proc.ids

def nodeIds (procs : List Proc) : List Id := procs.flatMap (fun p => p.nodes.map (·.id))

/-- what AutoLayout must deliver for a list of processes -/
def LayoutOk (o : Nat → Nat) (cfg : Cfg) (n : Nat) (procs : List Proc) : Prop :=
  let r := layoutAll o cfg n cfg.sy procs
  -- exactly one shape per flow node, in flow-element order; one edge per sequence flow
  r.1.map (·.elem) = procs.flatMap (fun p => (flowNodes p).map (·.id)) ∧
  r.2.1.map (·.elem) = procs.flatMap (fun p => p.flows.map (·.id)) ∧
  -- every edge starts on its source shape and ends on its target shape
  (∀ e ∈ r.2.1, edgeAttached r.1 e) ∧
  -- no two shapes overlap
  (GapsCover cfg → r.1.Pairwise (fun s t => disjoint s t = true))

/-- C19 on the model whose `AddActivity` stores the kinds `st`, for the activity kinds satisfying `ok` -/
def C19_for (st : Kind → Bool) (ok : Kind → Prop) : Prop :=
  ∀ (o : Nat → Nat), Injective o →
    -- (a) every process the process builder hands out is well-formed
    (∀ (n : Nat) (acts : Acts), (∀ a ∈ acts, ok a.1) → presetsDistinct acts →
        WellFormed (buildProcess st o n acts).1) ∧
    -- (b) processes built one after the other share no id and are laid out correctly under every configuration
    (∀ (cfg : Cfg) (n : Nat) (scripts : List (Nat × Acts)),
        (∀ sc ∈ scripts, ∀ a ∈ sc.2, ok a.1) → Sequential st o scripts →
        (procIds (built st o scripts)).Nodup ∧ LayoutOk o cfg n (built st o scripts))

/-- the full statement of C19 on the model: for EVERY activity type -/
def C19_statement (st : Kind → Bool) : Prop := C19_for st isActivity

/-- the same restricted to the activity types the switch stores -/
def C19_statement_stored (st : Kind → Bool) : Prop := C19_for st (actOk st)

/-- for build scripts of any length over the stored activity types, with or without preset ids, and every
injective id oracle: ids unique, flow ends exist and list the flow, start without incoming, end without outgoing -/
theorem process_wellformed (st : Kind → Bool) (o : Nat → Nat) (hinj : Injective o) (n : Nat) (acts : Acts)
    (hok : ∀ a ∈ acts, actOk st a.1) (hpre : presetsDistinct acts) : WellFormed (buildProcess st o n acts).1 := by
  obtain ⟨wf, _⟩ := buildProcess_wf hinj n acts hok hpre
  exact ⟨wf.nodup, wf.flows, wf.startIn, wf.endOut⟩

theorem wellformed_node_ids_nodup {p : Proc} (h : WellFormed p) : (p.nodes.map (·.id)).Nodup := by
  have := h.1
  rw [ids_unfold, List.nodup_cons, List.nodup_append] at this
  exact this.2.1

theorem wellformed_flowsClosed {p : Proc} (h : WellFormed p) : flowsClosed p := by
  intro f hf
  obtain ⟨⟨s, hs, hsrc, _⟩, ⟨t, ht, htgt, _⟩⟩ := h.2.1 f hf
  exact ⟨List.mem_map.mpr ⟨s, hs, hsrc⟩, List.mem_map.mpr ⟨t, ht, htgt⟩⟩

/-- an activity the switch does not store leaves no trace of its kind in the process -/
theorem buildProcess_unstored (st : Kind → Bool) (o : Nat → Nat) (n : Nat) (k : Kind) (h : st k = false) :
    (buildProcess st o n [(k, none)]).1 = (buildProcess (fun _ => false) o n [(Kind.task, none)]).1 := by
  simp only [buildProcess, addAll, addActivity, h]
  rfl

/-- the model violates C19 for ANY activity type outside the type switch of `AddActivity`: the activity is linked
but not stored, both flows dangle. Witness script: that one activity. -/
theorem activity_not_stored_dangling (st : Kind → Bool) (k : Kind) (h : st k = false) :
    ¬ WellFormed (buildProcess st (fun k => k) 0 [(k, none)]).1 := by
  intro hw
  have := wellformed_flowsClosed hw
  rw [buildProcess_unstored st _ 0 k h] at this
  revert this
  decide

/-- …and the ids really must come from an injective oracle: with a repeating one two flows share their id -/
theorem duplicate_generated_id_witness :
    ¬ WellFormed (buildProcess (fun _ => true) (fun _ => 0) 0 [(Kind.task, none)]).1 := by
  intro h
  have := h.1
  revert this
  decide

theorem waypoints_on_borders (scale : Nat) (s t : Shape) (hs : 0 ≤ s.w ∧ 0 ≤ s.h) (ht : 0 ≤ t.w ∧ 0 ≤ t.h) :
    ∃ a b, (waypoints scale s t).head? = some a ∧ (waypoints scale s t).getLast? = some b ∧
      onBorder s a = true ∧ onBorder t b = true := by
  have hmid : ∀ {y h : Int}, 0 ≤ h → y ≤ y + h / 2 ∧ y + h / 2 ≤ y + h := fun h0 =>
    ⟨Int.le_add_of_nonneg_right (Int.ediv_nonneg h0 (by decide)), Int.add_le_add_left (Int.ediv_le_self 2 h0) _⟩
  have hA : onBorder s (s.x + s.w, s.y + s.h / 2) = true := (onBorder_iff ..).mpr
    ⟨⟨⟨⟨Int.le_add_of_nonneg_right hs.1, Int.le_refl _⟩, (hmid hs.2).1⟩, (hmid hs.2).2⟩, .inl (.inl (.inr rfl))⟩
  have hB : onBorder t (t.x, t.y + t.h / 2) = true := (onBorder_iff ..).mpr
    ⟨⟨⟨⟨Int.le_refl _, Int.le_add_of_nonneg_right ht.1⟩, (hmid ht.2).1⟩, (hmid ht.2).2⟩, .inl (.inl (.inl rfl))⟩
  exact ⟨_, _, (waypoints_ends scale s t).1, (waypoints_ends scale s t).2, hA, hB⟩

/-- one process: exactly one shape per flow node (unique node ids), one edge per flow (flows closed),
edges attached to their shapes -/
theorem layoutProcess_ok (o : Nat → Nat) (n : Nat) (cfg : Cfg) (y : Int) (p : Proc)
    (hnd : (p.nodes.map (·.id)).Nodup) (hcl : flowsClosed p) :
    (layoutProcess o n cfg y p).1.map (·.elem) = (flowNodes p).map (·.id) ∧
    (layoutProcess o n cfg y p).2.1.map (·.elem) = p.flows.map (·.id) ∧
    (∀ e ∈ (layoutProcess o n cfg y p).2.1, edgeAttached (layoutProcess o n cfg y p).1 e) := by
  have hids := collectNodes_ids cfg.scale p hnd
  have hmem : ∀ i, i ∈ p.nodes.map (·.id) → i ∈ (collectNodes cfg.scale p).map (·.id) := fun i hi =>
    hids ▸ ((sortByRank_perm p.nodes).map _).mem_iff.mpr hi
  have hc := layoutProcess_cases o n cfg y p
  generalize layoutProcess o n cfg y p = r at hc ⊢
  rcases hc with ⟨hnil, rfl⟩ | ⟨m, rfl⟩ <;> dsimp only
  · -- no flow node at all: then no flow either, its ends being flow nodes
    have hfl : p.flows = [] := List.eq_nil_iff_forall_not_mem.mpr fun f hf =>
      List.not_mem_nil (hnil ▸ hmem _ (hcl f hf).1)
    exact ⟨by rw [← hids, hnil]; rfl, hfl ▸ rfl, fun _ h => (nomatch h)⟩
  · obtain ⟨hn1, _, hn3⟩ := nameShapes_spec o (lpPos cfg y p) n
    obtain ⟨hb1, hb2⟩ := buildEdges_spec o cfg.scale (lpPos cfg y p) (collectEdges p) m
    refine ⟨by rw [hn1, lpPos_elems, hids], ?_, ?_⟩
    · refine (hb2 fun e he => ?_).trans (List.map_map ..)
      obtain ⟨f, hf, rfl⟩ := List.mem_map.mp he
      have hm := fun i hi => List.mem_map.mp (lpPos_elems cfg y p ▸ hmem i hi)
      exact ⟨hm _ (hcl f hf).1, hm _ (hcl f hf).2⟩
    · intro e he
      obtain ⟨s, hs, t, ht, hse, hte, hw⟩ := hb1 e he
      obtain ⟨i, hi⟩ := hn3 s hs
      obtain ⟨j, hj⟩ := hn3 t ht
      obtain ⟨a, b, ha, hb, hoa, hob⟩ := waypoints_on_borders cfg.scale s t
        (lpPos_sizes cfg y p s hs) (lpPos_sizes cfg y p t ht)
      exact ⟨_, hi, _, hj, hse, hte, a, b, hw ▸ ha, hw ▸ hb, hoa, hob⟩

theorem edgeAttached_mono {l l' : List Shape} (h : ∀ s ∈ l, s ∈ l') {e : Edge} (he : edgeAttached l e) :
    edgeAttached l' e := by
  obtain ⟨s, hs, t, ht, rest⟩ := he
  exact ⟨s, h s hs, t, h t ht, rest⟩

/-- AutoLayout over ANY list of processes with unique node ids and closed flows, ANY configuration -/
theorem layout_ok (o : Nat → Nat) (cfg : Cfg) : ∀ (procs : List Proc) (n : Nat) (y : Int),
    (nodeIds procs).Nodup → (∀ p ∈ procs, flowsClosed p) →
    (layoutAll o cfg n y procs).1.map (·.elem) = procs.flatMap (fun p => (flowNodes p).map (·.id)) ∧
    (layoutAll o cfg n y procs).2.1.map (·.elem) = procs.flatMap (fun p => p.flows.map (·.id)) ∧
    (∀ e ∈ (layoutAll o cfg n y procs).2.1, edgeAttached (layoutAll o cfg n y procs).1 e) := by
  intro procs
  induction procs with
  | nil => exact fun _ _ _ _ => ⟨rfl, rfl, fun _ h => (nomatch h)⟩
  | cons p ps ih =>
    intro n y hnd hcl
    rw [nodeIds, List.flatMap_cons, List.nodup_append] at hnd
    obtain ⟨h1, h2, h3⟩ := layoutProcess_ok o n cfg y p hnd.1 (hcl p List.mem_cons_self)
    obtain ⟨i1, i2, i3⟩ := ih (layoutProcess o n cfg y p).2.2.2 (y + (layoutProcess o n cfg y p).2.2.1 + cfg.pg)
      hnd.2.1 (fun q hq => hcl q (List.mem_cons_of_mem _ hq))
    rw [(layoutAll_cons o cfg n y p ps).1, (layoutAll_cons o cfg n y p ps).2, List.map_append, List.map_append,
      h1, i1, h2, i2]
    refine ⟨rfl, rfl, fun e he => ?_⟩
    rcases List.mem_append.mp he with he | he
    · exact edgeAttached_mono (fun s hs => List.mem_append_left _ hs) (h3 e he)
    · exact edgeAttached_mono (fun s hs => List.mem_append_right _ hs) (i3 e he)

/-- no overlap at all once the elements of the shapes are pairwise different (unique node ids) -/
theorem layout_no_overlap (o : Nat → Nat) (cfg : Cfg) (hg : GapsCover cfg) (procs : List Proc) (n : Nat) (y : Int)
    (hnd : (nodeIds procs).Nodup) (hcl : ∀ p ∈ procs, flowsClosed p) :
    (layoutAll o cfg n y procs).1.Pairwise (fun s t => disjoint s t = true) := by
  have h := (layoutAll_shapes o cfg hg procs n y).2
  have hel := (layout_ok o cfg procs n y hnd hcl).1
  have hnd' : ((layoutAll o cfg n y procs).1.map (·.elem)).Nodup := by
    rw [hel]
    -- flow element order is a permutation of the stored nodes, process by process
    have : ∀ (l : List Proc), (l.flatMap (fun p => (flowNodes p).map (·.id))).Perm
        (l.flatMap (fun p => p.nodes.map (·.id))) := by
      intro l
      induction l with
      | nil => simp
      | cons q qs ih =>
        simp only [List.flatMap_cons]
        exact List.Perm.append (List.Perm.map _ (sortByRank_perm q.nodes)) ih
    exact (List.Perm.nodup_iff (this procs)).mpr hnd
  -- combine: pairwise (elem ≠ → disjoint) and pairwise elem ≠
  have hp2 : (layoutAll o cfg n y procs).1.Pairwise (fun s t => s.elem ≠ t.elem) :=
    (List.pairwise_map).mp hnd'
  exact List.Pairwise.imp₂ (fun _ _ h1 h2 => h1 h2) h hp2

theorem layoutOk_of_wellformed (o : Nat → Nat) (cfg : Cfg) (n : Nat) (procs : List Proc)
    (hnd : (nodeIds procs).Nodup) (hcl : ∀ p ∈ procs, flowsClosed p) :
    LayoutOk o cfg n procs := by
  obtain ⟨h1, h2, h3⟩ := layout_ok o cfg procs n cfg.sy hnd hcl
  exact ⟨h1, h2, h3, fun hg => layout_no_overlap o cfg hg procs n cfg.sy hnd hcl⟩

theorem sublist_flatMap {α β : Type} (f g : α → List β) (h : ∀ a, (f a).Sublist (g a)) :
    ∀ l : List α, (l.flatMap f).Sublist (l.flatMap g) := by
  intro l
  induction l with
  | nil => simp
  | cons x xs ih => simp only [List.flatMap_cons]; exact List.Sublist.append (h x) ih

/-- processes built one after the other (any number of them, any scripts over the stored types) share no id:
process ids, flow node ids and sequence flow ids are pairwise distinct across the whole definitions -/
theorem sequential_ids_unique (st : Kind → Bool) (o : Nat → Nat) (hinj : Injective o) (scripts : List (Nat × Acts))
    (hok : ∀ sc ∈ scripts, ∀ a ∈ sc.2, actOk st a.1) (hseq : Sequential st o scripts) :
    (procIds (built st o scripts)).Nodup :=
  (built_ids_nodup hinj scripts 0 hseq.1 hok hseq.2).1

theorem nodeIds_nodup_of_procIds {procs : List Proc} (h : (procIds procs).Nodup) : (nodeIds procs).Nodup := by
  refine List.Nodup.sublist (sublist_flatMap _ _ ?_ procs) h
  intro p
  rw [ids_unfold]
  exact List.Sublist.cons _ (List.sublist_append_left _ _)

/-- C19 for the activity types `AddActivity` stores — whatever the switch is -/
theorem C19_holds_partial (st : Kind → Bool) : C19_statement_stored st := by
  intro o hinj
  refine ⟨process_wellformed st o hinj, fun cfg n scripts hok hseq => ?_⟩
  have hids := sequential_ids_unique st o hinj scripts hok hseq
  refine ⟨hids, ?_⟩
  apply layoutOk_of_wellformed o cfg n _ (nodeIds_nodup_of_procIds hids)
  intro p hp
  obtain ⟨sc, hsc', rfl⟩ := List.mem_map.mp hp
  exact wellformed_flowsClosed
    (process_wellformed st o hinj sc.1 sc.2 (hok sc hsc') ((List.pairwise_flatMap.mp hseq.2).1 sc hsc'))

/-- positive side of the dichotomy: a switch that stores every activity type gives the full statement -/
theorem C19_general (st : Kind → Bool) (hall : ∀ k, isActivity k → st k = true) : C19_statement st := by
  intro o hinj
  obtain ⟨h1, h2⟩ := C19_holds_partial st o hinj
  have up : ∀ k, isActivity k → actOk st k := fun k hk => ⟨hall k hk, hk.1, hk.2⟩
  exact ⟨fun n acts hok hpre => h1 n acts (fun a ha => up _ (hok a ha)) hpre,
    fun cfg n scripts hok hseq => h2 cfg n scripts (fun sc hsc a ha => up _ (hok sc hsc a ha)) hseq⟩

/-- negative side: for ANY activity type the switch does not store the full statement fails on the faithful
model, with the explicit witness `AddActivity(<one activity of that type>)` -/
theorem C19_counterexample_activity_not_stored (st : Kind → Bool) (k : Kind) (hk : isActivity k)
    (hst : st k = false) : ¬ C19_statement st := by
  intro h
  exact activity_not_stored_dangling st k hst
    ((h (fun k => k) (fun _ _ h => h)).1 0 [(k, none)] (List.forall_mem_singleton.mpr hk) List.nodup_nil)

/-! Non-vacuity: the hypotheses are satisfiable, and the objects are not trivial (tests, not the claim). -/
example : Injective (fun k => k) := fun _ _ h => h
example : ∀ a ∈ ([(Kind.task, none), (Kind.subProcess, some 1), (Kind.userTask, some 2)] : Acts), actOk (fun _ => true) a.1 := by decide
example : presetsDistinct [(Kind.task, none), (Kind.subProcess, some 1), (Kind.userTask, some 2)] := by decide
example : GapsCover ⟨768, 768, 1440, 960, 1440, 8⟩ := by decide
example : Sequential (fun _ => true) (fun k => k) [(1, [(Kind.task, none)]), (9, [(Kind.userTask, some 1)])] :=
  ⟨⟨by decide, by decide, trivial⟩, by decide⟩
example : (buildProcess (fun _ => true) (fun k => k) 0 [(Kind.task, none), (Kind.userTask, some 2)]).1.flows.length = 3 := by decide
example : (nodeIds [(buildProcess (fun _ => true) (fun k => k) 0 [(Kind.task, none), (Kind.userTask, some 2)]).1]).Nodup := by decide
example : flowsClosed (buildProcess (fun _ => true) (fun k => k) 0 [(Kind.task, none), (Kind.userTask, some 2)]).1 := by decide
-- the default configuration in units of 1/8: end event, start event, task (flow element order) in one row
example : ((layoutAll (fun k => k) ⟨768, 768, 1440, 960, 1440, 8⟩ 100 768
      [(buildProcess (fun _ => true) (fun k => k) 0 [(Kind.task, none)]).1]).1.map (fun s => (s.x, s.y, s.w, s.h))) =
    [(3648, 624, 288, 288), (768, 624, 288, 288), (2208, 448, 800, 640)] := by decide
example : walk (buildProcess (fun _ => true) (fun k => k) 0 [(Kind.task, none), (Kind.userTask, some 2)]).1 10 (Id.gen .event 1)
    = [Id.gen .activity 2, Id.preset 2] := by decide

end Bpmn.Props.C19
