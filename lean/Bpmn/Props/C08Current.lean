import Bpmn.Props.C08
import Bpmn.Gen.C08
/-! C08 instantiated at the facts extracted from the current /repo tree (`Bpmn.Gen.C08`, regenerated on every run).

`current_verdict` and `current_do_returns` select a side of a dichotomy that is proved for every value of the facts,
so this module type-checks whichever way the code is: with a plain blocking send in `Do` they are the refutation and
the witness schedule; with a `default` or a `<-t.done` alternative beside the send they are the positive theorems. The
module stops type-checking only when a fact is `none` (construct not found) or
when one of the facts the retry model hard-wires has moved. -/
namespace Bpmn.Props.C08
open Bpmn.Model.TaskTrace

def cfgOf (f r : Option Nat) (d a : Option Bool) : Option Cfg :=
  match f, r, d, a with
  | some f, some r, some d, some a => some { forwardCap := f, responseCap := r, doSendHasDefault := d, doSendHasDoneAlt := a }
  | _, _, _, _ => none

def current : Cfg :=
  (cfgOf Bpmn.Gen.C08.forwardCap Bpmn.Gen.C08.responseCap Bpmn.Gen.C08.doSendHasDefault
    Bpmn.Gen.C08.doSendHasDoneAlt).get (by decide)

/-- C08 on the current facts: holds, or is false -/
theorem current_verdict : if Ok current = true then C08_statement current else ¬ C08_statement current :=
  C08_dichotomy current

/-- every `Do` returns on the current facts — or the explicit schedule after which caller 0 never does -/
theorem current_do_returns :
    if Ok current = true then NonBlocking current
    else (run current init (witness current)).pc 0 = .passed ∧
      ∀ sched, (run current (run current init (witness current)) sched).pc 0 = .passed := by
  split
  · next h => exact (C08_general current h).2.2.1
  · next h => exact C08_counterexample_third_do_blocks current (by simpa using h)

/-- whatever the facts: one effective answer, late calls without effect, retry bound, declared names only -/
theorem current_partial : FirstAnswerWins current ∧ LateDoNoEffect current ∧ RetryBound ∧ DeclaredOnly :=
  C08_partial current

/-- `done` is only ever closed, never sent on: its capacity plays no role in the model; the fact must exist -/
theorem current_done_channel_found : Bpmn.Gen.C08.doneCap.isSome = true := by decide

/-- the model's "for ever" sentinel is the one `IsContinue` compares with -/
theorem current_retry_sentinel : Bpmn.Gen.C08.retrySentinel = some retrySentinel := by decide

/-- `IsContinue` is `limit > attempts` (strict), as `Retry.isContinue` -/
theorem current_retry_strict : Bpmn.Gen.C08.retryStrictGreater = some true := by decide

/-- the flow loop sends the error trace before it reads the handler, as `onAnswer` emits it first -/
theorem current_error_trace_first : Bpmn.Gen.C08.errorTraceBeforeHandler = some true := by decide

/-- the flow loop overwrites the retry limit with the handler's value on every error, as `errSwitch` does -/
theorem current_limit_from_handler : Bpmn.Gen.C08.retryLimitFromHandler = some true := by decide

end Bpmn.Props.C08
