import Bpmn.Model.EventMatch
/-!
# C11 (kernel) — which listener an event matches

`matchesInst` is the port of `MatchesEventInstance` of every event kind (pkg/event/events.go). The
property speaks of "matching" and "non-matching" listeners; this file says what that is and proves
the port has exactly that meaning, for every event and every definition instance: an event matches
a definition instance iff both denote the same thing — same kind, same references, an absent
reference on the definition naming nothing (for a message the operation must agree INCLUDING its
absence; for a link all sources in order and the target), a timer / conditional event only the
instance it came from. The catch-event model (`Model.CatchEvent`) abstracts events and
definitions to numbers with matching = equality; this theorem is what justifies that abstraction.
-/
namespace Bpmn.Props.C11
open Bpmn.Model.EventMatch

/-- the definition an identity names: the one whose attributes say exactly that (an instance is named by no
definition) -/
def defOf : Ident → Option Def
  | .cancel => some .cancel
  | .terminate => some .terminate
  | .signal r => some (.signal (some r))
  | .message r o => some (.message (some r) o)
  | .escalation r => some (.escalation (some r))
  | .link s t => some (.link s t)
  | .error r => some (.error (some r))
  | .instance _ => none

/-- each direction by cases on the side it assumes, so that the other side computes -/
theorem mem_idents_iff (x : Ident) (d : Def) : x ∈ d.idents ↔ defOf x = some d := by
  constructor
  · intro h
    cases d <;>
      simp only [Def.idents, List.mem_singleton, List.not_mem_nil, Option.mem_toList, Option.map_eq_some_iff] at h
    case cancel | terminate | link => subst h; rfl
    case signal | message | escalation | error => obtain ⟨a, rfl, rfl⟩ := h; rfl
  · intro h
    cases x <;> cases h <;> simp [Def.idents]

/-- an event matches a definition instance iff it came from that very instance or the instance's definition is the
one its identity names -/
theorem matches_iff (ev : Ev) (i : Inst) :
    matchesInst ev i = true ↔ ∃ x, ev.ident = some x ∧ (x = .instance i.id ∨ defOf x = some i.d) := by
  cases ev <;> simp only [matchesInst, Ev.ident, Option.some.injEq, exists_eq_left', defOf, reduceCtorEq, false_or,
    Bool.false_eq_true, false_and, exists_false, or_false, Ident.instance.injEq, beq_iff_eq]
  -- left, per attribute kind: `(match i.d with | K .. => cond | _ => false) = true ↔ K-def = i.d`;
  -- `grind` where the equations of a conjunction come out the other way round
  case cancel | terminate =>
    split
    · next h => simp [h]
    · next h => exact ⟨nofun, fun h' => (h h'.symm).elim⟩
  case signal | error | escalation =>
    split
    · next dr h => rw [h]; cases dr <;> simp <;> exact eq_comm
    · next h => exact ⟨nofun, fun h' => (h _ h'.symm).elim⟩
  case message r op =>
    split
    · next dr dop h => rw [h]; cases dr <;> cases op <;> cases dop <;> simp <;> grind
    · next h => exact ⟨nofun, fun h' => (h _ _ h'.symm).elim⟩
  case link srcs tgt =>
    split
    · next dsrcs dtgt h => rw [h]; cases tgt <;> cases dtgt <;> simp <;> grind
    · next h => exact ⟨nofun, fun h' => (h _ _ h'.symm).elim⟩

/-- **Matching is identity**, for all events and all definition instances. -/
theorem matches_spec (ev : Ev) (i : Inst) :
    matchesInst ev i = true ↔ ∃ x, ev.ident = some x ∧ x ∈ i.idents := by
  simp only [Inst.idents, List.mem_cons, mem_idents_iff]
  exact matches_iff ev i

/-- events that denote nothing never match anything -/
theorem nothing_matches_end_none_compensation (i : Inst) (a : Nat) :
    matchesInst .endEv i = false ∧ matchesInst .noneEv i = false ∧ matchesInst (.compensation a) i = false := by
  simp [matchesInst]

/-- a message event matches a message definition iff message AND operation agree (an event with an
operation does not match a definition without one, and vice versa) -/
theorem message_matches_iff (r : Nat) (op : Option Nat) (id : Nat) (dr dop : Option Nat) :
    matchesInst (.message r op) ⟨id, .message dr dop⟩ = true ↔ dr = some r ∧ dop = op := by
  simp only [matches_iff, Ev.ident, defOf, Option.some.injEq, exists_eq_left', reduceCtorEq, false_or,
    Def.message.injEq]
  exact ⟨fun h => ⟨h.1.symm, h.2.symm⟩, fun h => ⟨h.1.symm, h.2.symm⟩⟩

/-- a signal event matches a signal definition with that reference and no definition of another kind -/
theorem signal_matches_iff (r : Nat) (i : Inst) :
    matchesInst (.signal r) i = true ↔ i.d = .signal (some r) := by
  simp only [matches_iff, Ev.ident, defOf, Option.some.injEq, exists_eq_left', reduceCtorEq, false_or]
  exact eq_comm

/-- a timer or conditional event matches the instance that produced it and no other, whatever its definition -/
theorem instance_events_match_own_instance (k : Nat) (i : Inst) :
    (matchesInst (.timer k) i = true ↔ i.id = k) ∧ (matchesInst (.conditional k) i = true ↔ i.id = k) := by
  simp only [matchesInst, beq_iff_eq]
  exact ⟨eq_comm, eq_comm⟩

/-- two listeners with the same definition are indistinguishable to every attribute-carrying event:
matching depends on the definition only (never on registration order or identity), except for
timer / conditional events -/
theorem matches_depends_on_definition (ev : Ev) (i j : Inst) (h : i.d = j.d)
    (hev : ∀ k, ev ≠ .timer k ∧ ev ≠ .conditional k) : matchesInst ev i = matchesInst ev j := by
  obtain ⟨a, d⟩ := i
  obtain ⟨b, e⟩ := j
  simp only at h
  subst h
  cases ev with
  | timer k => exact absurd rfl (hev k).1
  | conditional k => exact absurd rfl (hev k).2
  | _ => rfl

example : matchesInst (.message 1 (some 7)) ⟨0, .message (some 1) (some 7)⟩ = true ∧
    matchesInst (.message 1 (some 7)) ⟨0, .message (some 1) none⟩ = false ∧
    matchesInst (.message 1 none) ⟨0, .message (some 1) (some 7)⟩ = false := by decide

end Bpmn.Props.C11
