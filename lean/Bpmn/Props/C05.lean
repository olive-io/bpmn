import Bpmn.Model.Gateway
import Bpmn.Model.Engine
/-!
# C05 — Inclusive gateway forks on all true conditions, joins only activated branches

Fork: `igDecide` for all lists. Join of a flat block: `IJ` (counting abstraction of `trySync` over the fork's
cohort) for any number of activated branches and any order of arrivals / early endings. Nested forks: the
engine model at the code's configuration releases the join early and again later — kernel-checked witness.
-/
namespace Bpmn.Props.C05
open Bpmn.Model.Gateway

/-- a token on every flow whose condition is true (in list order) … -/
theorem igDecide_true (nd : List (String × Bool)) (d : Option String) (h : ∃ x ∈ nd, x.2 = true) :
    igDecide nd d = (nd.filter (·.2)).map (·.1) ∧ igDecide nd d ≠ [] := by
  obtain ⟨x, hx, hx2⟩ := h
  have hne : (nd.filter (·.2)).map (·.1) ≠ [] := by
    intro e
    have : x ∈ nd.filter (·.2) := List.mem_filter.mpr ⟨hx, by simpa using hx2⟩
    have : x.1 ∈ (nd.filter (·.2)).map (·.1) := List.mem_map.mpr ⟨x, this, rfl⟩
    rw [e] at this; cases this
  unfold igDecide
  cases hf : (nd.filter (·.2)).map (·.1) with
  | nil => exact absurd hf hne
  | cons a as => simp

/-- … otherwise the default flow alone … -/
theorem igDecide_default (nd : List (String × Bool)) (d : String) (h : ∀ x ∈ nd, x.2 = false) :
    igDecide nd (some d) = [d] := by
  unfold igDecide
  have : nd.filter (·.2) = [] := List.filter_eq_nil_iff.mpr (by intro x hx; simp [h x hx])
  simp [this]

/-- … and with neither, nothing (the gateway emits the error trace). -/
theorem igDecide_error (nd : List (String × Bool)) (h : ∀ x ∈ nd, x.2 = false) :
    igDecide nd none = [] := by
  unfold igDecide
  have : nd.filter (·.2) = [] := List.filter_eq_nil_iff.mpr (by intro x hx; simp [h x hx])
  simp [this]

/-- never a flow whose condition is false, unless it is the default taken alone -/
theorem igDecide_sound (nd : List (String × Bool)) (d : Option String) (fl : String)
    (h : fl ∈ igDecide nd d) : (fl, true) ∈ nd ∨ (d = some fl ∧ ∀ x ∈ nd, x.2 = false) := by
  unfold igDecide at h
  cases hf : (nd.filter (·.2)).map (·.1) with
  | nil =>
    rw [hf] at h
    right
    have hnil : nd.filter (·.2) = [] := by simpa using hf
    cases d with
    | none => simp at h
    | some d' =>
      simp at h
      refine ⟨by rw [h], ?_⟩
      intro x hx
      simpa using List.filter_eq_nil_iff.mp hnil x hx
  | cons a as =>
    rw [hf] at h
    left
    have : fl ∈ (nd.filter (·.2)).map (·.1) := by rw [hf]; exact h
    obtain ⟨x, hx, rfl⟩ := List.mem_map.mp this
    have := List.mem_filter.mp hx
    have hb : x.2 = true := by simpa using this.2
    have : (x.1, x.2) ∈ nd := this.1
    rw [hb] at this; exact this

theorem step_idle (j : IJ) (e : JEv) (h : 1 < j.live) :
    j.step e = { j with live := j.live - 1, arrived := j.arrived + (if e = .arrive then 1 else 0) } := by
  have hl : ¬ (j.live - 1 = 0) := by omega
  cases e <;> simp [IJ.step, IJ.fire, hl]

/-- while some token of the fork activation has neither arrived nor ended, nothing is released -/
theorem ij_no_early_release : ∀ (evs : List JEv) (j : IJ), evs.length < j.live →
    (j.run evs).releases = j.releases ∧ (j.run evs).live = j.live - evs.length ∧
    (j.run evs).arrived = j.arrived + evs.count .arrive := by
  intro evs
  induction evs with
  | nil => intro j _; exact ⟨rfl, rfl, rfl⟩
  | cons e es ih =>
    intro j h
    rw [List.length_cons] at h
    have hs := step_idle j e (by omega)
    obtain ⟨r1, r2, r3⟩ := ih (j.step e) (by rw [hs]; exact Nat.lt_sub_of_add_lt h)
    show ((j.step e).run es).releases = _ ∧ ((j.step e).run es).live = _ ∧ ((j.step e).run es).arrived = _
    rw [r1, r2, r3, hs, List.length_cons, List.count_cons]
    refine ⟨rfl, (Nat.sub_sub ..).trans (by rw [Nat.add_comm]), ?_⟩
    cases e <;> simp <;> omega

/-- **Window theorem.** For a fork activation with `n` tokens, any order of arrivals and early endings: no
release before the last of the `n` tokens has arrived or ended; exactly one release at that moment if at
least one token arrived (none if every branch ended elsewhere); the join is then idle again. -/
theorem ij_window (n : Nat) (evs : List JEv) (hn : evs.length = n) (hpos : 0 < n) :
    let j := ({ live := n } : IJ).run evs
    j.releases = (if evs.count .arrive = 0 then 0 else 1) ∧ j.live = 0 ∧
    (evs.count .arrive ≠ 0 → j.arrived = 0) := by
  obtain ⟨pre, last, rfl⟩ : ∃ pre last, evs = pre ++ [last] := by
    cases h : evs.reverse with
    | nil => simp at h; subst h; simp at hn; omega
    | cons x xs => exact ⟨xs.reverse, x, by rw [← List.reverse_reverse evs, h]; simp⟩
  have hlen : pre.length < ({ live := n } : IJ).live := by simp at hn ⊢; omega
  obtain ⟨r1, r2, r3⟩ := ij_no_early_release pre { live := n } hlen
  simp only [IJ.run, List.foldl_append, List.foldl_cons, List.foldl_nil] at r1 r2 r3 ⊢
  have hl : (List.foldl IJ.step { live := n } pre).live = 1 := by rw [r2]; simp at hn ⊢; omega
  generalize List.foldl IJ.step { live := n } pre = s at *
  simp only [List.count_append, List.count_cons, List.count_nil]
  cases last with
  | arrive =>
    simp [IJ.step, IJ.fire, hl, r1, r3]
  | ended =>
    simp only [IJ.step, IJ.fire, hl, r1, r3]
    by_cases hc : List.count JEv.arrive pre = 0
    · simp [hc]
    · simp [hc]

open Bpmn.Model.Engine in
/-- a parallel fork inside an inclusive branch: I → (T1 | P → (U1 | U2) → Q) → J → Z -/
def nestedProc : Bpmn.Model.Engine.Proc :=
  { nodes := [
      { id := "s", kind := .start, ins := [], outs := ["f0"] },
      { id := "I", kind := .incl, ins := ["f0"], outs := ["f1", "f2"] },
      { id := "T1", kind := .task, ins := ["f1"], outs := ["f3"] },
      { id := "P", kind := .par, ins := ["f2"], outs := ["f4", "f5"] },
      { id := "U1", kind := .task, ins := ["f4"], outs := ["f6"] },
      { id := "U2", kind := .task, ins := ["f5"], outs := ["f7"] },
      { id := "Q", kind := .par, ins := ["f6", "f7"], outs := ["f8"] },
      { id := "J", kind := .incl, ins := ["f3", "f8"], outs := ["f9"] },
      { id := "Z", kind := .task, ins := ["f9"], outs := ["f10"] },
      { id := "e", kind := .end_, ins := ["f10"], outs := [] }],
    flows := [
      { id := "f0", src := "s", dst := "I", cond := .none }, { id := "f1", src := "I", dst := "T1", cond := .none },
      { id := "f2", src := "I", dst := "P", cond := .none }, { id := "f3", src := "T1", dst := "J", cond := .none },
      { id := "f4", src := "P", dst := "U1", cond := .none }, { id := "f5", src := "P", dst := "U2", cond := .none },
      { id := "f6", src := "U1", dst := "Q", cond := .none }, { id := "f7", src := "U2", dst := "Q", cond := .none },
      { id := "f8", src := "Q", dst := "J", cond := .none }, { id := "f9", src := "J", dst := "Z", cond := .none },
      { id := "f10", src := "Z", dst := "e", cond := .none }] }

open Bpmn.Model.Engine in
/-- requests of `Z` (the task behind the join) after answering T1, U2, U1 in this order -/
def nestedZRequests (cfg : Cfg) : Nat :=
  let s0 := start cfg nestedProc []
  let s1 := answer cfg nestedProc s0 "T1" 1 (.ok [])
  let s2 := answer cfg nestedProc s1 "U2" 1 (.ok [])
  let s3 := answer cfg nestedProc s2 "U1" 1 (.ok [])
  (s1.obs ++ s2.obs ++ s3.obs).count (.req "Z")

open Bpmn.Model.Engine in
/-- **Witness (D19).** With the tracker-cohort join and the terminations seen first, the token that survives the
inner join carries the parallel gateway as its origin: the outer join is released for the first branch alone
and a second time for the late token — `Z` is requested twice. The token game requests it once. -/
theorem C05_counterexample_nested_fork :
    nestedZRequests { Cfg.ideal with inclCohort := true, eagerSettle := true } = 2 ∧
    nestedZRequests Cfg.ideal = 1 ∧ nestedZRequests Cfg.idealLate = 1 := by
  decide +kernel

/-- the full statement of C05 on the model; the join part is stated for flat blocks (`_partial`: for nested
forks the code configuration violates it, see the witness above) -/
def C05_statement_partial : Prop :=
  (∀ nd d, (∃ x ∈ nd, x.2 = true) → igDecide nd d = (nd.filter (·.2)).map (·.1)) ∧
  (∀ nd d, (∀ x ∈ nd, x.2 = false) → igDecide nd (some d) = [d]) ∧
  (∀ nd, (∀ x ∈ nd, x.2 = false) → igDecide nd none = []) ∧
  (∀ (evs : List JEv) (j : IJ), evs.length < j.live → (j.run evs).releases = j.releases) ∧
  (∀ n (evs : List JEv), evs.length = n → 0 < n →
      (({ live := n } : IJ).run evs).releases = (if evs.count .arrive = 0 then 0 else 1))

theorem C05_partial : C05_statement_partial :=
  ⟨fun nd d h => (igDecide_true nd d h).1, igDecide_default, igDecide_error,
   fun evs j h => (ij_no_early_release evs j h).1,
   fun n evs hn hp => (ij_window n evs hn hp).1⟩

example : igDecide [("a", true), ("b", false), ("c", true)] (some "d") = ["a", "c"] := by decide
example : (({ live := 3 } : IJ).run [.arrive, .ended, .arrive]).releases = 1 := by decide
example : (({ live := 3 } : IJ).run [.arrive, .ended]).releases = 0 := by decide

/-! ## every listed condition is evaluated (C05-13)

`evalFlows` (flow.go: the probe / the conditions of the outgoing flows of a fork) goes through ALL the flows it is given, in
their order, whatever the conditions yield: a condition that fails to evaluate is reported and counts as not true, the
flows listed after it still get their verdict. -/

theorem evalFlows_fold_keys (p : Bpmn.Model.Engine.Proc) (u : Bool) : ∀ (fls : List String) (acc : List (String × Bool)) (s : Bpmn.Model.Engine.St),
    ((fls.foldl (fun (x : List (String × Bool) × Bpmn.Model.Engine.St) fl =>
        let r := Bpmn.Model.Engine.evalFlow p x.2 fl u; (x.1 ++ [(fl, r.1)], r.2)) (acc, s)).1.map (·.1)) = acc.map (·.1) ++ fls := by
  intro fls
  induction fls with
  | nil => intro acc s; simp
  | cons fl rest ih =>
    intro acc s
    simp only [List.foldl_cons]
    rw [ih]
    simp

/-- the verdicts are for exactly the flows that were listed, in the order they were listed -/
theorem evalFlows_keys (p : Bpmn.Model.Engine.Proc) (s : Bpmn.Model.Engine.St) (fls : List String) (u : Bool) :
    (Bpmn.Model.Engine.evalFlows p s fls u).1.map (·.1) = fls := by
  have := evalFlows_fold_keys p u fls [] s
  simpa [Bpmn.Model.Engine.evalFlows] using this

theorem evalFlows_length (p : Bpmn.Model.Engine.Proc) (s : Bpmn.Model.Engine.St) (fls : List String) (u : Bool) :
    (Bpmn.Model.Engine.evalFlows p s fls u).1.length = fls.length := by
  have := congrArg List.length (evalFlows_keys p s fls u)
  simpa using this

open Bpmn.Model.Engine in
theorem evalFlow_vars (p : Proc) (s : St) (fl : String) (u : Bool) : (evalFlow p s fl u).2.vars = s.vars := by
  unfold evalFlow
  split
  · rfl
  · split
    · rfl
    · split <;> rfl

open Bpmn.Model.Engine in
/-- **A true condition is found true wherever it is listed** — before or after conditions that are false or fail to
evaluate: its verdict is `true` in the result of `evalFlows` (C05-13: a probe that stops at the first failure loses it). -/
theorem evalFlows_true_kept (p : Proc) (fls : List String) (f : String) (fl : SFlow)
    (hf : f ∈ fls) (hfl : p.flow? f = some fl) :
    ∀ (s : St), fl.cond.eval s.vars = .yes → (f, true) ∈ (evalFlows p s fls false).1 := by
  intro s hy
  unfold evalFlows
  -- generalise over the accumulator: whatever is in it stays, and `f` is added with `true` when its turn comes
  have key : ∀ (l : List String) (acc : List (String × Bool)) (s' : St), s'.vars = s.vars →
      ((f, true) ∈ acc ∨ f ∈ l) →
      (f, true) ∈ (l.foldl (fun (x : List (String × Bool) × St) fl' =>
        let r := evalFlow p x.2 fl' false; (x.1 ++ [(fl', r.1)], r.2)) (acc, s')).1 := by
    intro l
    induction l with
    | nil => intro acc s' _ h; rcases h with h | h; exact h; exact absurd h (by simp)
    | cons x xs ih =>
      intro acc s' hv h
      simp only [List.foldl_cons]
      apply ih
      · rw [evalFlow_vars]; exact hv
      · rcases h with h | h
        · exact Or.inl (List.mem_append_left _ h)
        · rcases List.mem_cons.mp h with e | h'
          · left
            subst e
            have : (evalFlow p s' f false).1 = true := by
              unfold evalFlow
              simp only [Bool.false_eq_true, if_false, hfl, hv, hy]
            simp [this]
          · exact Or.inr h'
  exact key fls [] s rfl (Or.inr hf)

end Bpmn.Props.C05
