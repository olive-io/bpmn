import Bpmn.Lemmas.CatchEvent
/-!
# C11 — events reach every listening catch event exactly once and delivery never blocks

Model: `Bpmn.Model.CatchEvent` (port of event_catch.go / event_start.go inboxes and readers,
pkg/event `ForwardEvent`, process.go `ConsumeEvent`), parametric in the facts `Facts` read from the source.
All statements are for any number of consumers, any incoming-flow counts, any definitions, any history length.

What the code does with SEVERAL tokens waiting at one catch event is stated as it is: one matching event gives
EVERY waiting token its continuation (once each) and disarms the listener — also for message events, where BPMN
would hand one message to one waiting token.
-/
namespace Bpmn.Props.C11
open Bpmn.Model.CatchEvent Bpmn.Model.Satisfier

/-- (a) One delivery over ANY list of registered consumers: every catch event in front of a blocking consumer
(all of them, if the delivery returns) gets exactly one copy; a listening, matching one releases all its waiting
tokens exactly once and is disarmed; a non-matching one does not react; one that is not listening is unchanged
(if it was never reached the event may sit in its inbox — see (c)). -/
def DeliverOnce (f : Facts) : Prop :=
  ∀ (e : Ev) (ns : List Node) (i : Nat) (n : Node), ns[i]? = some n → n.kind = .catch_ →
    (∀ b, (forward f e ns).blocked = some b → i < b) →
    ∃ n' o, (forward f e ns).nodes[i]? = some n' ∧ (forward f e ns).outs[i]? = some o ∧
      (n.loopStarted = true → n.activated = true → Plain n → (matchIdx n.defs e).isSome = true →
        o = [.observed, .released n.parked] ∧ n' = { n with parked := [], activated := false }) ∧
      (matchIdx n.defs e = none →
        releasedOf o = [] ∧ n'.parked = n.parked ∧ n'.activated = n.activated ∧ n'.sat = n.sat) ∧
      (n.activated = false → o = [] ∧ n'.parked = n.parked ∧ n'.activated = false ∧ n'.sat = n.sat)

/-- (b) a blocked consumer stops the delivery: it and everything registered after it sees nothing -/
def DeliverStops (f : Facts) : Prop :=
  ∀ (e : Ev) (ns : List Node) (b i : Nat), (forward f e ns).blocked = some b → b ≤ i →
    (forward f e ns).nodes[i]? = ns[i]? ∧ (forward f e ns).outs[i]? = (ns[i]?).map (fun _ => [])

/-- (c) events that reach a catch event's inbox while it is not activated — in particular everything delivered
before the node was ever reached, which the reader works off BEFORE the activating `nextActionMessage` that was
enqueued behind it — have no effect on anything that follows -/
def StaleInert : Prop :=
  ∀ (n : Node) (evs : List Ev) (rest : List Msg), n.kind = .catch_ → n.activated = false →
    runMsgs n (evs.map Msg.event ++ rest) = runMsgs n rest

/-- (d) over any sequence of inbox messages: every token that arrived is either released or still waiting, in
arrival order, never both and never twice -/
def Conserved : Prop :=
  ∀ (n : Node) (ms : List Msg), n.kind = .catch_ →
    releasedOf (runMsgs n ms).2 ++ (runMsgs n ms).1.parked = n.parked ++ arrivalsOf ms

/-- (c') the same for a whole instance and any history: when a token reaches a catch event whose reader was never
started, whatever was delivered before — the buffer and the callers still blocked on it — is worked off while the
node is not activated; the node becomes exactly what it would have become in a fresh instance (listening, holding
this token), and shows only the listening trace -/
def StaleInertSys (f : Facts) : Prop :=
  ∀ (specs : List NodeSpec) (ops : List Op) (i : Nat) (t : TokId) (sp : NodeSpec) (n : Node),
    specs[i]? = some sp → sp.kind = .catch_ →
    (runOps f (Sys.init f specs) ops).1.nodes[i]? = some n → n.loopStarted = false →
    (arrive f i t (runOps f (Sys.init f specs) ops).1).1.nodes[i]? =
        some { Node.init f sp.kind sp.incoming sp.defs sp.par with loopStarted := true, activated := true, parked := [t] } ∧
      outsAt i (arrive f i t (runOps f (Sys.init f specs) ops).1).2 = [.listening]

/-- (d') for a whole instance and any history of deliveries and arrivals: at every catch event, the tokens released
so far followed by the tokens still waiting are exactly the tokens that arrived, in order -/
def ConservedSys (f : Facts) : Prop :=
  ∀ (specs : List NodeSpec) (ops : List Op) (i : Nat) (sp : NodeSpec), specs[i]? = some sp → sp.kind = .catch_ →
    ∃ n, (runOps f (Sys.init f specs) ops).1.nodes[i]? = some n ∧
      releasedOf (outsAt i (runOps f (Sys.init f specs) ops).2) ++ n.parked = arrivedAt i ops

/-- (e) in every reachable state nobody is blocked, and a delivery returns after exactly one completed
`ConsumeEvent` per registered consumer -/
def Bounded (f : Facts) : Prop :=
  ∀ (specs : List NodeSpec) (ops : List Op) (e : Ev),
    (runOps f (Sys.init f specs) ops).1.waiting = [] ∧
    (deliver f e (runOps f (Sys.init f specs) ops).1).1.waiting = [] ∧
    (forward f e (runOps f (Sys.init f specs) ops).1.nodes).sends = (runOps f (Sys.init f specs) ops).1.nodes.length

/-- the full statement of C11 on the model, for given facts about the source -/
def C11_statement (f : Facts) : Prop :=
  DeliverOnce f ∧ DeliverStops f ∧ StaleInert ∧ StaleInertSys f ∧ Conserved ∧ ConservedSys f ∧ Bounded f

theorem deliver_once (f : Facts) : DeliverOnce f := by
  intro e ns i n hi hk hb
  obtain ⟨n', o, h1, h2, hr⟩ := forward_pointwise f e ns i n hi hb
  refine ⟨n', o, h1, h2, ?_⟩
  cases hr with
  | handled =>
    refine ⟨fun _ ha hp hm => ?_, fun hm => ?_, fun ha => ?_⟩
    · obtain ⟨j, hj⟩ := Option.isSome_iff_exists.mp hm
      rw [handle_event_match n e j hk ha hp hj]
      exact ⟨rfl, rfl⟩
    · obtain ⟨h3, h4⟩ := handle_event_nomatch n e hk hm
      rw [h3]
      exact ⟨h4, rfl, rfl, rfl⟩
    · rw [handle_event_inactive n e hk ha]
      exact ⟨rfl, rfl, ha, rfl⟩
  | dropped hnl | queued hnl =>
    exact ⟨fun hl => absurd (hl.symm.trans hnl) (by decide), fun _ => ⟨rfl, rfl, rfl, rfl⟩, fun ha => ⟨rfl, rfl, ha, rfl⟩⟩

/-- `Process.ConsumeEvent` on an instance IS that forwarding over its registered consumers: (a) and (b) speak about
every delivery in every state of every instance -/
theorem deliver_is_forward (f : Facts) (e : Ev) (s : Sys) (i : Nat) :
    (deliver f e s).1.nodes = (forward f e s.nodes).nodes ∧
    outsAt i (deliver f e s).2 = ((forward f e s.nodes).outs[i]?).getD [] ∧
    (deliver f e s).1.waiting = s.waiting ++
      (match (forward f e s.nodes).blocked with | some j => [{ ev := e, pos := j }] | none => []) := by
  refine ⟨by simp [deliver, forwardFrom], ?_, ?_⟩
  · simp [deliver, forwardFrom, outsAt_tag]
  · simp only [deliver, forwardFrom, List.drop_zero]
    cases (forward f e s.nodes).blocked <;> simp

theorem deliver_stops (f : Facts) : DeliverStops f := fun e ns b i hb hbi => forward_beyond f e ns b i hb hbi

theorem stale_inert : StaleInert := runMsgs_events_inactive

theorem stale_inert_sys (f : Facts) : StaleInertSys f := by
  intro specs ops i t sp n hsp hk hn hnr
  -- apart from its buffer, which holds only events, `n` is still the fresh node
  obtain ⟨_, hfresh⟩ := runOps_unreached f ops (Sys.init f specs) i _ n (init_getElem? f hsp) hn hnr
  have hw : OnlyEvents n :=
    runOps_stable onlyEvents_stable f ops _ (init_forall f specs fun _ => ⟨[], rfl⟩) n (List.mem_of_getElem? hn)
  obtain ⟨h1, h2⟩ := arrive_unreached f i t _ n hn ((congrArg Node.kind hfresh).trans hk)
    (congrArg Node.activated hfresh) (congrArg Node.parked hfresh) hw
  refine ⟨h1.trans ?_, h2⟩
  exact congrArg (fun m : Node => some { m with loopStarted := true, activated := true, parked := [t] }) hfresh

theorem tokens_conserved : Conserved := fun n ms hk => runMsgs_conserve n ms hk

theorem tokens_conserved_sys (f : Facts) : ConservedSys f := by
  intro specs ops i sp hsp hk
  obtain ⟨n', h1, _, h2⟩ :=
    runOps_conserve f ops (Sys.init f specs) (init_forall f specs fun _ => ⟨[], rfl⟩) i _ (init_getElem? f hsp) hk
  exact ⟨n', h1, by simpa [Node.init] using h2⟩

theorem nodup_split {a b c : List TokId} (h : a ++ b = c) (hd : c.Nodup) : a.Nodup ∧ ∀ t ∈ a, t ∉ b := by
  rw [← h, List.nodup_append] at hd
  exact ⟨hd.1, fun t ht ht' => hd.2.2 t ht t ht' rfl⟩

/-- "exactly once" for a whole instance: with distinct token ids no token is released twice at a catch event, and
a released token is not waiting there any more -/
theorem released_once_sys (f : Facts) (specs : List NodeSpec) (ops : List Op) (i : Nat) (sp : NodeSpec)
    (hsp : specs[i]? = some sp) (hk : sp.kind = .catch_) (hd : (arrivedAt i ops).Nodup) :
    (releasedOf (outsAt i (runOps f (Sys.init f specs) ops).2)).Nodup ∧
    ∀ n, (runOps f (Sys.init f specs) ops).1.nodes[i]? = some n →
      ∀ t ∈ releasedOf (outsAt i (runOps f (Sys.init f specs) ops).2), t ∉ n.parked := by
  obtain ⟨n, h1, h2⟩ := tokens_conserved_sys f specs ops i sp hsp hk
  refine ⟨(nodup_split h2 hd).1, fun n' hn' => ?_⟩
  rw [h1] at hn'; cases hn'
  exact (nodup_split h2 hd).2

/-- "exactly once": with distinct token ids nothing is released twice, and nothing released is still waiting -/
theorem released_once (n : Node) (ms : List Msg) (hk : n.kind = .catch_) (hd : (n.parked ++ arrivalsOf ms).Nodup) :
    (releasedOf (runMsgs n ms).2).Nodup ∧ ∀ t ∈ releasedOf (runMsgs n ms).2, t ∉ (runMsgs n ms).1.parked :=
  nodup_split (runMsgs_conserve n ms hk) hd

/-- the positive side of the dichotomy: reader always running, a send that cannot block, or a send only once the
reader runs ⇒ every delivery returns in every reachable state, after one completed send per consumer -/
theorem deliver_bounded (f : Facts) (hok : f.ok = true) : Bounded f := by
  intro specs ops e
  obtain ⟨h1, h2⟩ := runOps_no_waiting f hok ops (Sys.init f specs) rfl (init_forall f specs fun _ => id)
  have hnb : ∀ n ∈ (runOps f (Sys.init f specs) ops).1.nodes, consume (f.of n.kind) n e ≠ .blocks :=
    fun n hn => no_block_of_ok f hok n (h2 n hn) e
  refine ⟨h1, ?_, (forward_returns f e _ hnb).2⟩
  rw [deliver_returns f e _ hnb]; exact h1

/-- the negative side, with an explicit witness for every incoming-flow count: a node of a type without an escape that
is never reached takes as many events as its inbox holds (`incoming * capMul + capAdd`; 3 for one incoming flow at
capacity `2 * incoming + 1`); the next delivery blocks its caller, and the caller stays blocked through every
continuation in which the node is not reached -/
theorem C11_counterexample_unreached_inbox (f : Facts) (kind : NodeKind) (hbad : (f.of kind).ok = false)
    (incoming : Nat) (defs : List Ev) (e : Ev) :
    (runOps f (Sys.init f [{ kind, incoming, defs }])
        (List.replicate ((f.of kind).cap incoming) (Op.deliver e))).1.waiting = [] ∧
    (deliver f e (runOps f (Sys.init f [{ kind, incoming, defs }])
        (List.replicate ((f.of kind).cap incoming) (Op.deliver e))).1).1.waiting = [{ ev := e, pos := 0 }] ∧
    ∀ ops : List Op, (∀ op ∈ ops, ∀ t, op ≠ Op.arrive 0 t) →
      { ev := e, pos := 0 } ∈ (runOps f (deliver f e (runOps f (Sys.init f [{ kind, incoming, defs }])
        (List.replicate ((f.of kind).cap incoming) (Op.deliver e))).1).1 ops).1.waiting := by
  unfold InboxFacts.ok at hbad
  simp only [Bool.or_eq_false_iff] at hbad
  obtain ⟨⟨hr, hnb⟩, hg⟩ := hbad
  have hnr : (Node.init f kind incoming defs false).loopStarted = false := hr
  have hs : Sys.init f [{ kind, incoming, defs }] = { nodes := [Node.init f kind incoming defs false], waiting := [] } := rfl
  rw [hs, fill_unreached f e ((f.of kind).cap incoming) (Node.init f kind incoming defs false) hnr hg hnb
    (Nat.le_of_eq (Nat.zero_add _))]
  have hblk := deliver_single f
    { Node.init f kind incoming defs false with
      inbox := (Node.init f kind incoming defs false).inbox ++ List.replicate ((f.of kind).cap incoming) (Msg.event e) }
    e [] hnr hg hnb
  rw [if_neg (by simp [Node.init])] at hblk
  refine ⟨rfl, ?_, fun ops hops => blocked_forever f { ev := e, pos := 0 } ops _ ?_ hops⟩
  · rw [hblk]; rfl
  · rw [hblk]; exact List.mem_singleton_self _

/-- the facts decide: without any of the three mechanisms the statement is false -/
theorem C11_cex (f : Facts) (hbad : f.ok = false) : ¬ C11_statement f := by
  intro ⟨_, _, _, _, _, _, hb⟩
  obtain ⟨kind, hk⟩ : ∃ kind, (f.of kind).ok = false := by
    unfold Facts.ok at hbad
    simp only [Bool.and_eq_false_iff] at hbad
    exact hbad.elim (fun h => ⟨.catch_, h⟩) (fun h => ⟨.start, h⟩)
  have hw := (C11_counterexample_unreached_inbox f kind hk 0 [] 0).2.1
  have := (hb [{ kind, incoming := 0, defs := [] }] (List.replicate ((f.of kind).cap 0) (Op.deliver 0)) 0).2.1
  rw [this] at hw
  cases hw

theorem C11_general (f : Facts) (hok : f.ok = true) : C11_statement f :=
  ⟨deliver_once f, deliver_stops f, stale_inert, stale_inert_sys f, tokens_conserved, tokens_conserved_sys f,
    deliver_bounded f hok⟩

/-- what holds whatever the facts are: everything except boundedness, and boundedness under the side condition -/
theorem C11_holds_partial (f : Facts) :
    DeliverOnce f ∧ DeliverStops f ∧ StaleInert ∧ StaleInertSys f ∧ Conserved ∧ ConservedSys f ∧
      (f.ok = true → Bounded f) :=
  ⟨deliver_once f, deliver_stops f, stale_inert, stale_inert_sys f, tokens_conserved, tokens_conserved_sys f,
    deliver_bounded f⟩

/-! Non-vacuity: concrete states meeting the hypotheses (tests, not the claim). -/

/-- the facts as first extracted, before /repo a91a5c5 made the catch event's `ConsumeEvent` return at once while its
reader is not started: capacity 2·incoming+1, reader started on first arrival, plain send -/
def codeFacts : Facts :=
  { catch_ := { capMul := 2, capAdd := 1, readerAtConstruction := false, sendNonBlocking := false, sendOnlyWhenRunning := false },
    start := { capMul := 2, capAdd := 1, readerAtConstruction := false, sendNonBlocking := false, sendOnlyWhenRunning := false } }

def sampleCatch : NodeSpec := { kind := .catch_, incoming := 1, defs := [7] }

-- the side condition of `C11_cex` holds for `codeFacts`, that of `deliver_bounded` for each repair
example : codeFacts.ok = false := by decide
example : ({ codeFacts with catch_ := { codeFacts.catch_ with sendOnlyWhenRunning := true },
                            start := { codeFacts.start with sendNonBlocking := true } } : Facts).ok = true := by decide
-- one incoming flow: three deliveries fit, the fourth blocks (the number seen on the engine before a91a5c5)
example : (runOps codeFacts (Sys.init codeFacts [sampleCatch]) (List.replicate 3 (Op.deliver 7))).1.waiting = [] := by decide
example : (runOps codeFacts (Sys.init codeFacts [sampleCatch]) (List.replicate 4 (Op.deliver 7))).1.waiting =
    [{ ev := 7, pos := 0 }] := by decide
-- a listening, matching, plain catch event with two waiting tokens releases both on one event
example : (runOps codeFacts (Sys.init codeFacts [{ sampleCatch with incoming := 2 }])
    [.arrive 0 1, .arrive 0 2, .deliver 7, .deliver 7]).2 =
    [(0, .listening), (0, .observed), (0, .released [1, 2])] := by decide
-- events delivered before the node is reached (the fourth one blocked) do not fire it when it is reached
example : (runOps codeFacts (Sys.init codeFacts [sampleCatch])
    [.deliver 7, .deliver 7, .deliver 7, .deliver 7, .arrive 0 1]).2 = [(0, .listening)] := by decide
example : (runOps codeFacts (Sys.init codeFacts [sampleCatch])
    [.deliver 7, .deliver 7, .deliver 7, .deliver 7, .arrive 0 1, .deliver 7]).2 =
    [(0, .listening), (0, .observed), (0, .released [1])] := by decide
-- hypotheses of `deliver_once`: a listening plain matching node exists
example : Plain (Node.init codeFacts .catch_ 1 [7] false) ∧ (matchIdx [7] 7).isSome = true := by
  exact ⟨Or.inl rfl, rfl⟩

end Bpmn.Props.C11
