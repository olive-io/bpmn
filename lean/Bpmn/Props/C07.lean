import Bpmn.Model.Cancel
import Bpmn.Lemmas.Cancel
/-!
C07 — cancelling the context at any point stops the instance and leaks nothing.

Theorems about the cancellation PROTOCOL (`Bpmn.Model.Cancel`), for every table of goroutine kinds, every
configuration of live goroutines, every schedule. Whether /repo's tables meet the side condition is decided in
`Props/C07Current.lean` on the tables regenerated from the source; that real goroutines exit is observed by the
cancellation-point sweep (`harness/cmd/vh/c07.go`), not proved.
-/
namespace Bpmn.Props.C07
open Bpmn.Model.Cancel

/-- **cancel_drains.** If every blocking operation of every goroutine kind has a cancellation alternative or a
guaranteed partner, every kind that sends traces is a registered sender and registration and `Done()` go
together, then from ANY configuration of live goroutines of these kinds, after `cancel`, running the remaining
actors for at most `measure s` steps (one per blocking operation / send / return still ahead) and giving the
broadcaster one more turn leaves: no goroutine, tracer done, subscriber channels closed. -/
theorem cancel_drains (t : List Kind) (ht : tableOk t = true) (s : St) (h : s.wf t) :
    (drain (measure s) (cancel s)).live = [] ∧
    (drain (measure s) (cancel s)).tracerDone = true ∧
    (drain (measure s) (cancel s)).subsClosed = true :=
  drain_spec (measure s) (inv_of_wf ht h) (Nat.le_refl _)

/-- … and this does not depend on the scheduler: along EVERY schedule from the cancelled state, no live goroutine
is ever unable to take its next step ("nothing stays blocked, whichever node each token was at"), exactly
`measure s` goroutine steps are available in total, and once they are used up the next turn of the broadcaster
closes the subscriber channels. -/
theorem cancel_drains_any_schedule (t : List Kind) (ht : tableOk t = true) (s : St) (h : s.wf t)
    (ls : List Label) (s' : St) (hr : run (cancel s) ls = some s') :
    actorSteps ls ≤ measure s ∧
    (∀ i, i < s'.live.length → (stepActor s' i).isSome = true) ∧
    (actorSteps ls = measure s → s'.live = []) ∧
    (s'.live = [] → (poll s').tracerDone = true ∧ (poll s').subsClosed = true) := by
  have ⟨h', hm⟩ := run_inv (inv_of_wf ht h) ls hr
  have hmc : measure (cancel s) = measure s := rfl
  exact ⟨by omega, fun i hi => no_deadlock h' hi, fun he => measure_eq_zero.mp (by omega),
    fun he => (poll_done_of_empty h' he).1.2⟩

/-- **tracer_spin_bounded.** The broadcaster's post-cancel polling (its `select` keeps choosing the closed
`ctx.Done()`): with one turn after every goroutine step (the hot loop) the number of futile turns is at most
`measure s`, and the polling has ended. (Which turns are futile: `poll_ends_iff`.) -/
theorem tracer_spin_bounded (t : List Kind) (ht : tableOk t = true) (s : St) (h : s.wf t) :
    (drainRR (measure s) (cancel s)).tracerDone = true ∧
    (drainRR (measure s) (cancel s)).polls ≤ s.polls + measure s :=
  let r := drainRR_spec (measure s) (inv_of_wf ht h) (Nat.le_refl _)
  ⟨r.1.2.1, r.2⟩

/-- one turn of the broadcaster: futile iff the WaitGroup counter is not zero; it ends when the last registered
sender is done -/
theorem poll_ends_iff (s : St) (hc : s.cancelled = true) (hd : s.tracerDone = false) :
    ((poll s).tracerDone = true ↔ s.pending = 0) ∧ ((poll s).polls = s.polls + 1 ↔ s.pending ≠ 0) := by
  unfold poll
  by_cases hp : s.pending = 0 <;> simp [hc, hd, hp]

/-- not drained, and never will be, whatever is scheduled -/
def Stuck (s : St) : Prop :=
  (s.live ≠ [] ∨ s.tracerDone = false) ∧
  ∀ (ls : List Label) (s' : St), run s ls = some s' →
    s'.live = s.live ∧ s'.tracerDone = s.tracerDone ∧ s'.subsClosed = s.subsClosed

/-- a kind fails: some configuration of goroutines of this kind alone, cancelled, reaches a stuck state -/
def KindFails (k : Kind) : Prop :=
  ∃ s : St, s.wf [k] ∧ ∃ (ls : List Label) (s1 : St), run (cancel s) ls = some s1 ∧ Stuck s1

theorem poll_frozen {s : St} (hp : s.tracerDone = true ∨ s.pending ≠ 0) : ∃ n, poll s = { s with polls := n } := by
  unfold poll
  split
  · exact ⟨s.polls, rfl⟩
  · next hnd =>
    split
    · next hz =>
      rcases hp with hp | hp
      · rw [hp, Bool.or_true] at hnd; exact absurd rfl hnd
      · exact absurd hz hp
    · exact ⟨s.polls + 1, rfl⟩

theorem frozen_forever : ∀ (ls : List Label) (s s' : St), (s.tracerDone = true ∨ s.pending ≠ 0) →
    (∀ a ∈ s.live, a.enabled s = false) → run s ls = some s' → ∃ n, s' = { s with polls := n }
  | [], s, s', _, _, hr => ⟨s.polls, (Option.some.inj hr).symm⟩
  | .actor i :: ls, s, s', _, hdis, hr => by
    rw [run, step, stepActor_none hdis i] at hr
    cases hr
  | .poll :: ls, s, s', hp, hdis, hr => by
    obtain ⟨n, hn⟩ := poll_frozen hp
    rw [run, step, hn] at hr
    -- `hp` and `hdis` do not look at the poll counter: they hold of the new state as they stand
    exact frozen_forever ls { s with polls := n } s' hp hdis hr

theorem stuck_of_frozen (s : St) (hp : s.tracerDone = true ∨ s.pending ≠ 0)
    (hdis : ∀ a ∈ s.live, a.enabled s = false) (hbad : s.live ≠ [] ∨ s.tracerDone = false) : Stuck s := by
  refine ⟨hbad, fun ls s' hr => ?_⟩
  obtain ⟨n, rfl⟩ := frozen_forever ls s s' hp hdis hr
  exact ⟨rfl, rfl, rfl⟩

def lone (a : Actor) : St :=
  { live := [a], pending := if a.registered then 1 else 0, cancelled := false, tracerDone := false,
    subsClosed := false, polls := 0 }

theorem lone_wf {k : Kind} {a : Actor} (hk : a.ofKind k) : (lone a).wf [k] := by
  refine ⟨List.forall_mem_singleton.2 ⟨k, List.mem_singleton.2 rfl, hk⟩, ?_, rfl⟩
  show (if a.registered = true then 1 else 0) = ([a].filter fun a => a.registered).length
  rw [List.filter_cons, List.filter_nil]
  cases a.registered <;> rfl

theorem lone_parked {k : Kind} {a : Actor} (hk : a.ofKind k)
    (hdis : ∀ s : St, (a.registered = false → s.tracerDone = true) → a.enabled s = false) : KindFails k := by
  refine ⟨lone a, lone_wf hk, [.poll], _, rfl, ?_⟩
  obtain ⟨r, c, todo⟩ := a
  cases r with
  | false =>
    exact stuck_of_frozen _ (.inl rfl) (List.forall_mem_singleton.2 (hdis _ fun _ => rfl))
      (.inl (List.cons_ne_nil _ _))
  | true =>
    exact stuck_of_frozen _ (.inr Nat.one_ne_zero) (List.forall_mem_singleton.2 (hdis _ nofun))
      (.inl (List.cons_ne_nil _ _))

/-- **D20 form.** A kind that sends traces without being a registered sender: the tracer does not wait for it, so
it can terminate first; the goroutine is then parked in `tracer.Send` for ever (a leaked goroutine). -/
theorem unregistered_sender_leaks (k : Kind) (hs : k.sends = true) (hr : k.registered = false) : KindFails k :=
  lone_parked (a := ⟨false, k.callsDone, [.send]⟩) ⟨hr.symm, rfl, List.forall_mem_singleton.2 hs⟩ fun s hd => by
    show (!s.tracerDone) = false
    rw [hd rfl]; rfl

/-- **D22 form.** A registered sender parked at a blocking operation that has neither a cancellation alternative
nor a guaranteed partner: it never returns, the WaitGroup counter never reaches zero, the tracer never ends (every
turn of the broadcaster is futile: it polls for ever) and the subscriber channels are never closed. For a kind
that is not registered the goroutine is leaked just the same (the tracer may end). -/
theorem parked_operation_leaks (k : Kind) (o : Op) (ho : o ∈ k.ops) (hp : o.passable = false) : KindFails k :=
  lone_parked (a := ⟨k.registered, k.callsDone, [.block o]⟩) ⟨rfl, rfl, List.forall_mem_singleton.2 ho⟩ fun s _ => by
    show (o.cancelAlt && s.cancelled || o.partner) = false
    rw [Op.passable, Bool.or_eq_false_iff] at hp
    rw [hp.1, hp.2]; rfl

/-- a registered sender parked for good keeps the broadcaster polling: for every `n` there is a schedule with `n`
futile turns, and the tracer is still not done -/
theorem parked_registered_spins (o : Op) (hp : o.passable = false) (c : Bool) (n : Nat) :
    let s : St := { live := [{ registered := true, callsDone := c, todo := [.block o] }], pending := 1,
                    cancelled := true, tracerDone := false, subsClosed := false, polls := 0 }
    ∃ s', run s (List.replicate n .poll) = some s' ∧ s'.polls = n ∧ s'.tracerDone = false ∧ s'.subsClosed = false := by
  intro s
  have gen : ∀ (n p : Nat), run { s with polls := p } (List.replicate n .poll) = some { s with polls := p + n } := by
    intro n
    induction n with
    | zero => intro p; rfl
    | succ n ih =>
      intro p
      -- one registered sender is counted: the turn is a futile one
      have : poll { s with polls := p } = { s with polls := p + 1 } := rfl
      rw [List.replicate_succ, run, step, this]
      exact (ih (p + 1)).trans (by rw [Nat.add_assoc, Nat.add_comm 1])
  exact ⟨_, gen n 0, Nat.zero_add n, rfl, rfl⟩

/-- a kind that registers a sender handle and never calls `Done()` on it: the goroutine returns, the counter stays
up, the tracer never ends -/
theorem registered_never_done (k : Kind) (hr : k.registered = true) (hd : k.callsDone = false) : KindFails k :=
  ⟨lone ⟨true, false, []⟩, lone_wf ⟨hr.symm, hd.symm, nofun⟩, [.actor 0], _, rfl,
    stuck_of_frozen _ (.inr Nat.one_ne_zero) nofun (.inr rfl)⟩

/-- every way a row can fail the side condition (short of calling `Done()` on a handle that was never registered,
which the Go runtime answers with a panic) has a stuck witness -/
theorem bad_kind_fails (k : Kind) (hbad : k.ok = false) (hnp : k.callsDone = true → k.registered = true) :
    KindFails k := by
  unfold Kind.ok at hbad
  rcases Bool.and_eq_false_iff.1 hbad with h | hrd
  · rcases Bool.and_eq_false_iff.1 h with hops | hs
    · obtain ⟨o, ho, hp⟩ := List.all_eq_false.1 hops
      exact parked_operation_leaks k o ho (Bool.eq_false_iff.2 hp)
    · rw [Bool.or_eq_false_iff, Bool.not_eq_false'] at hs
      exact unregistered_sender_leaks k hs.1 hs.2
  · cases hd : k.callsDone with
    | true => rw [hnp hd, hd] at hrd; cases hrd
    | false =>
      cases hr : k.registered with
      | true => exact registered_never_done k hr hd
      | false => rw [hr, hd] at hrd; cases hrd

/-- the dichotomy over a whole table: it drains from every configuration and schedule, or a named row has a stuck
witness -/
def Drains (t : List Kind) : Prop :=
  ∀ (s : St), s.wf t →
    ((drain (measure s) (cancel s)).live = [] ∧ (drain (measure s) (cancel s)).tracerDone = true ∧
      (drain (measure s) (cancel s)).subsClosed = true) ∧
    ∀ (ls : List Label) (s' : St), run (cancel s) ls = some s' →
      actorSteps ls ≤ measure s ∧ (∀ i, i < s'.live.length → (stepActor s' i).isSome = true)

theorem drains_of_ok {t : List Kind} (ht : tableOk t = true) : Drains t := fun s hs =>
  ⟨cancel_drains t ht s hs, fun ls s' hr =>
    let r := cancel_drains_any_schedule t ht s hs ls s' hr; ⟨r.1, r.2.1⟩⟩

theorem table_dichotomy (t : List Kind) (hnp : ∀ k ∈ t, k.callsDone = true → k.registered = true) :
    if tableOk t = true then Drains t else ∃ k ∈ t, k.ok = false ∧ KindFails k := by
  split
  · next h => exact drains_of_ok h
  · next h =>
    obtain ⟨k, hk, hb⟩ := List.all_eq_false.1 (Bool.eq_false_iff.2 h)
    exact ⟨k, hk, Bool.eq_false_iff.2 hb, bad_kind_fails k (Bool.eq_false_iff.2 hb) (hnp k hk)⟩

theorem kind_dichotomy (k : Kind) (hnp : k.callsDone = true → k.registered = true) :
    if k.ok = true then Drains [k] else KindFails k := by
  split
  · next h => exact drains_of_ok (by rw [tableOk, List.all_cons, h]; rfl)
  · next h => exact bad_kind_fails k (Bool.eq_false_iff.2 h) hnp

/-- the content is the negative side; the positive side only spells the condition out -/
theorem sender_dichotomy (k : Kind) :
    if (!k.sends || k.registered) = true then (k.sends = true → k.registered = true) else KindFails k := by
  split
  · next h => intro hs; rw [hs] at h; exact h
  · next h =>
    rw [Bool.not_eq_true, Bool.or_eq_false_iff, Bool.not_eq_false'] at h
    exact unregistered_sender_leaks k h.1 h.2

/-! ### task requests and the cancel (code shape of `genericTask.run`) -/

theorem tstep_valid {s s1 : TL} {l : TLabel} {e : List TEv} (h : tstep true s l = some (s1, e))
    (hoc : s.observed = true → s.cancelled = true) :
    (s1.observed = true → s1.cancelled = true) ∧
    ∀ es, validEvs s1.cancelled s1.observed es = true → validEvs s.cancelled s.observed (e ++ es) = true := by
  cases l with
  | cancel => cases h; exact ⟨fun _ => rfl, fun es h => h⟩
  | enqueue => cases h; exact ⟨hoc, fun es h => h⟩
  | recv =>
    simp only [tstep] at h
    split at h
    · cases h
    · next hc =>
      cases h
      rw [Bool.or_eq_true, not_or, Bool.not_eq_true] at hc
      refine ⟨hoc, fun es (h : validEvs s.cancelled s.observed es = true) => ?_⟩
      show (!s.observed && (!s.cancelled || (true && s.cancelled)) && validEvs s.cancelled s.observed es) = true
      rw [h, hc.1]
      cases s.cancelled <;> rfl
  | observe =>
    simp only [tstep] at h
    split at h
    · next hc =>
      cases h
      exact ⟨fun _ => (Bool.and_eq_true_iff.1 hc).1, fun es h => h⟩
    · cases h

theorem trun_valid : ∀ (ls : List TLabel) (s s' : TL) (evs : List TEv),
    trun true s ls = some (s', evs) → (s.observed = true → s.cancelled = true) →
    validEvs s.cancelled s.observed evs = true
  | [], s, s', evs, h, _ => by cases h; rfl
  | l :: ls, s, s', evs, h, hoc => by
    rw [trun] at h
    split at h
    · cases h
    · next s1 e hst =>
      split at h
      · cases h
      · next s2 es hrun =>
        cases h
        have ⟨hoc1, hv⟩ := tstep_valid hst hoc
        exact hv es (trun_valid ls s1 s' es hrun hoc1)

/-- **no_request_after_cancel.** In every run of the task loop whose requests carry the loop's context: a request
emitted after the cancel has an already-cancelled context, and none is emitted once the loop has taken its
`ctx.Done()` branch. -/
theorem no_request_after_cancel (ls : List TLabel) (s' : TL) (evs : List TEv)
    (h : trun true {} ls = some (s', evs)) : validEvs false false evs = true :=
  trun_valid ls {} s' evs h nofun

theorem validEvs_request {b : Bool} : ∀ (evs : List TEv) (c o : Bool), validEvs c o evs = true →
    TEv.request b ∈ evs → o = false ∧ (c = true → b = true)
  | .cancel :: es, c, o, hv, hm =>
    let r := validEvs_request es true o hv ((List.mem_cons.1 hm).resolve_left nofun)
    ⟨r.1, fun _ => r.2 rfl⟩
  | .observe :: es, c, o, hv, hm =>
    nomatch (validEvs_request es c true hv ((List.mem_cons.1 hm).resolve_left nofun)).1
  | .request b' :: es, c, o, hv, hm => by
    simp only [validEvs, Bool.and_eq_true, Bool.or_eq_true, Bool.not_eq_true'] at hv
    rcases List.mem_cons.1 hm with hm | hm
    · cases hm
      exact ⟨hv.1.1, fun hc => hv.1.2.resolve_left fun h => Bool.false_ne_true (h.symm.trans hc)⟩
    · exact validEvs_request es c o hv.2 hm

theorem validEvs_suffix (rest : List TEv) : ∀ (pre : List TEv) (c o : Bool), validEvs c o (pre ++ rest) = true →
    ∃ c' o', validEvs c' o' rest = true
  | [], c, o, hv => ⟨c, o, hv⟩
  | .cancel :: pre, c, o, hv => validEvs_suffix rest pre true o hv
  | .observe :: pre, c, o, hv => validEvs_suffix rest pre c true hv
  | .request b :: pre, c, o, hv => by
    simp only [List.cons_append, validEvs, Bool.and_eq_true] at hv
    exact validEvs_suffix rest pre c o hv.2

theorem validEvs_after_cancel : ∀ (evs : List TEv) (c o : Bool), validEvs c o evs = true →
    ∀ (pre post : List TEv) (b : Bool), evs = pre ++ TEv.cancel :: post → TEv.request b ∈ post → b = true := by
  intro evs c o hv pre post b he hm
  obtain ⟨c', o', h⟩ := validEvs_suffix _ pre c o (he ▸ hv)
  exact (validEvs_request post true o' h hm).2 rfl

theorem validEvs_after_observe : ∀ (evs : List TEv) (c o : Bool), validEvs c o evs = true →
    ∀ (pre post : List TEv) (b : Bool), evs = pre ++ TEv.observe :: post → TEv.request b ∉ post := by
  intro evs c o hv pre post b he hm
  obtain ⟨c', o', h⟩ := validEvs_suffix _ pre c o (he ▸ hv)
  exact nomatch (validEvs_request post c' true h hm).1

/-- witness when the request does not carry the loop's context (e.g. the builder's default `context.TODO()`):
a request after the cancel with a live context -/
theorem request_live_ctx_without_carry :
    ∃ evs s', trun false {} [.enqueue, .cancel, .recv] = some (s', evs) ∧ validEvs false false evs = false :=
  ⟨_, _, rfl, by decide⟩

/-- C07 on the protocol model, for a table `t` of goroutine kinds and the fact `carries`:
after a cancel, from every configuration and along every schedule the instance drains (no goroutine left, tracer
done, subscriber channels closed, bounded polling), and task requests racing with the cancel carry a cancelled
context while none follows the loop's observation of it. -/
def C07_statement (t : List Kind) (carries : Bool) : Prop :=
  Drains t ∧
  (∀ s, s.wf t → (drainRR (measure s) (cancel s)).tracerDone = true ∧
      (drainRR (measure s) (cancel s)).polls ≤ s.polls + measure s) ∧
  (∀ ls s' evs, trun carries {} ls = some (s', evs) → validEvs false false evs = true)

def C07ok (t : List Kind) (carries : Bool) : Bool := tableOk t && carries

theorem C07_general (t : List Kind) (carries : Bool) (h : C07ok t carries = true) : C07_statement t carries := by
  obtain ⟨ht, rfl⟩ := Bool.and_eq_true_iff.1 h
  exact ⟨drains_of_ok ht, tracer_spin_bounded t ht, no_request_after_cancel⟩

theorem requests_dichotomy (carries : Bool) :
    if carries = true then ∀ ls s' evs, trun carries {} ls = some (s', evs) → validEvs false false evs = true
    else ∃ evs s', trun false {} [.enqueue, .cancel, .recv] = some (s', evs) ∧ validEvs false false evs = false := by
  split
  · next h => rw [h]; exact no_request_after_cancel
  · exact request_live_ctx_without_carry

theorem verdict (t : List Kind) (carries : Bool) (hnp : ∀ k ∈ t, k.callsDone = true → k.registered = true) :
    if C07ok t carries = true then C07_statement t carries
    else (∃ k ∈ t, k.ok = false ∧ KindFails k) ∨
         (carries = false ∧ ∃ evs s', trun false {} [.enqueue, .cancel, .recv] = some (s', evs) ∧
            validEvs false false evs = false) := by
  split
  · next h => exact C07_general t carries h
  · next h =>
    have hd := table_dichotomy t hnp
    split at hd
    · next ht =>
      cases carries with
      | true => exact absurd (Bool.and_eq_true_iff.2 ⟨ht, rfl⟩) h
      | false => exact .inr ⟨rfl, request_live_ctx_without_carry⟩
    · exact .inl hd

/-- the statement holds for every table that meets the side conditions (the name the audit and the manifest refer to) -/
theorem C07_holds : ∀ (t : List Kind) (carries : Bool), C07ok t carries = true → C07_statement t carries :=
  C07_general

/-- a table that meets the side conditions: a registered node loop with a cancellable select and a buffered reply,
and an unregistered helper that never sends -/
def sampleTable : List Kind :=
  [{ name := "node.run", ops := [⟨true, false⟩, ⟨false, true⟩], sends := true, registered := true, callsDone := true },
   { name := "helper", ops := [⟨true, false⟩], sends := false, registered := false, callsDone := false }]

def sampleState : St :=
  { live := [{ registered := true, callsDone := true, todo := [.block ⟨true, false⟩, .send] },
             { registered := false, callsDone := false, todo := [.block ⟨true, false⟩] },
             { registered := true, callsDone := true, todo := [.send, .block ⟨false, true⟩, .send] }],
    pending := 2, cancelled := false, tracerDone := false, subsClosed := false, polls := 0 }

example : tableOk sampleTable = true := by decide
example : C07ok sampleTable true = true := by decide

theorem sampleState_wf : sampleState.wf sampleTable := by
  refine ⟨?_, by decide, rfl⟩
  intro a ha
  simp only [sampleState, List.mem_cons, List.not_mem_nil, or_false] at ha
  rcases ha with rfl | rfl | rfl
  · exact ⟨_, List.mem_cons_self, rfl, rfl, by intro act h; simp at h; rcases h with rfl | rfl <;> simp⟩
  · exact ⟨_, List.mem_cons_of_mem _ List.mem_cons_self, rfl, rfl, by intro act h; simp at h; subst h; simp⟩
  · exact ⟨_, List.mem_cons_self, rfl, rfl, by
      intro act h; simp at h; rcases h with rfl | rfl | rfl <;> simp⟩

example : (drain (measure sampleState) (cancel sampleState)).live = [] ∧
    (drain (measure sampleState) (cancel sampleState)).tracerDone = true :=
  let r := cancel_drains sampleTable (by decide) sampleState sampleState_wf; ⟨r.1, r.2.1⟩

/-- the run is not trivial: nine goroutine steps are needed, eight do not suffice -/
example : measure sampleState = 9 := by decide
example : (drain 8 (cancel sampleState)).live ≠ [] := by decide

/-- the witness forms are inhabited by rows of the shape found in /repo -/
example : KindFails { name := "genericTask.run", ops := [⟨true, false⟩], sends := true, registered := false, callsDone := false } :=
  unregistered_sender_leaks _ rfl rfl
example : KindFails { name := "flow.Start$1", ops := [⟨false, false⟩], sends := true, registered := true, callsDone := true } :=
  parked_operation_leaks _ ⟨false, false⟩ List.mem_cons_self rfl
example : ∃ ls s' evs, trun true {} ls = some (s', evs) ∧ TEv.request true ∈ evs :=
  ⟨[.enqueue, .cancel, .recv], _, _, rfl, by decide⟩

end Bpmn.Props.C07
