import Bpmn.Props.C12
import Bpmn.Props.C01FragmentCurrent
import Bpmn.Props.C12Nest
import Bpmn.Props.C12Loop
/-!
# C12 — the sub-process node's contract in the engine model, for every program

First part: one step of the model, for ANY program, state and configuration — what "the parent's token continues past the
sub-process exactly once and only after every inner token is consumed" means for a step: entering, holding
(`Props/C12.settle_holds_parent`), returning (`settle_of_none` followed by `Lemmas/Engine.settleSubs_returns`, the equation of
`settle` in that case).

Second part, from `sub_programs_are_token_game` on: whole runs at the configuration extracted from /repo
(`Props/EngineCurrent.faithful`). A program without inclusive gateways runs there as in the token game (`Props/C01Fragment`,
any nesting depth, inside parallel branches, re-entered in loops), so the runs of `Props/C12Nest` and `Props/C12Loop` are its
runs.
-/
namespace Bpmn.Props.C12Steps
open Bpmn.Model Bpmn.Model.Engine Bpmn.Props.C01Conformance

def innerStarts (p : Proc) (n : Node) : List Node := p.nodes.filter (fun m => m.parent == n.id && m.kind == .start)

theorem spawnStarts_toks (starts : List Node) : ∀ (acc : List Tok) (s : St),
    (starts.foldl (fun (x : List Tok × St) m =>
      (x.1 ++ [({ fid := x.2.nextFid, node := m.id } : Tok)], { x.2 with nextFid := x.2.nextFid + 1 })) (acc, s)).1 =
      acc ++ (starts.zipIdx.map (fun (m, i) => ({ fid := s.nextFid + i, node := m.id } : Tok))) := by
  induction starts with
  | nil => intro acc s; simp
  | cons m rest ih =>
    intro acc s
    simp only [List.foldl, List.zipIdx_cons, List.map_cons]
    rw [ih]
    simp only [List.append_assoc, List.singleton_append, Nat.add_zero, Nat.zero_add]
    congr 2
    rw [List.zipIdx_succ]  -- indices shifted by one
    simp only [List.map_map]
    apply List.map_congr_left
    intro x _
    simp only [Function.comp]
    congr 1
    omega

/-- **Entering.** A token reaching an idle sub-process node: one fresh token per inner start event, in document order, with
consecutive fresh ids — whatever the configuration. -/
theorem enter_sub_tokens (cfg : Cfg) (p : Proc) (s : St) (t : Tok) (n : Node)
    (hn : p.node? t.node = some n) (hk : n.kind = .sub) (hidle : s.subs.any (·.node == n.id) = false) :
    (arrive cfg p s t).1 = (innerStarts p n).zipIdx.map (fun (m, i) =>
      ({ fid := (enterSub cfg s t n (innerStarts p n)).nextFid + i, node := m.id } : Tok)) := by
  rw [Bpmn.Lemmas.Engine.arrive_sub_eq hn hk, hidle, if_neg Bool.false_ne_true]
  exact (spawnStarts_toks (innerStarts p n) [] _).trans (List.nil_append _)

/-- **Entering, the parent.** With the inner start events re-armed on every activation (`subStartSticky = false`, an
extracted fact) the arriving token is held in `subs`; nothing is requested or completed by the step itself. -/
theorem enter_sub_holds_parent (cfg : Cfg) (hs : cfg.subStartSticky = false) (s : St) (t : Tok) (n : Node)
    (starts : List Node) :
    (enterSub cfg s t n starts).subs = s.subs ++ [t] ∧ (enterSub cfg s t n starts).obs = s.obs ∧
    (enterSub cfg s t n starts).pending = s.pending ∧ (enterSub cfg s t n starts).nextFid = s.nextFid := by
  unfold enterSub
  simp [hs]

/-- **Activations take turns** (subprocess.go `sp.activation`). A second token at an active sub-process node waits AT the
node: it starts nothing, requests nothing, joins no activation (`subs` unchanged) — never merged into the running one. -/
theorem enter_sub_twice_waits (cfg : Cfg) (p : Proc) (s : St) (t : Tok) (n : Node)
    (hn : p.node? t.node = some n) (hk : n.kind = .sub) (hbusy : s.subs.any (·.node == n.id) = true) :
    (arrive cfg p s t).1 = [] ∧ (arrive cfg p s t).2.parked = s.parked ++ [t] ∧ (arrive cfg p s t).2.subs = s.subs ∧
    (arrive cfg p s t).2.pending = s.pending ∧ (arrive cfg p s t).2.nextFid = s.nextFid ∧
    (arrive cfg p s t).2.obs = s.obs := by
  rw [Bpmn.Lemmas.Engine.arrive_sub_eq hn hk, if_pos hbusy]
  exact ⟨rfl, rfl, rfl, rfl, rfl, rfl⟩

/-- **Returning needs an empty scope.** If `settle` lets no inclusive gateway synchronise and yet releases tokens, then some
parent token's scope held no live token. -/
theorem return_needs_empty_scope (cfg : Cfg) (p : Proc) (s : St)
    (hig : (settleIncl cfg p s []).1 = none) (hrel : (settle cfg p s).1 ≠ []) :
    ∃ t ∈ (settleIncl cfg p s []).2.subs, liveInScope p (settleIncl cfg p s []).2 t.node [] = false :=
  -- the contrapositive of `settle_holds_parent`
  Classical.byContradiction fun hno => hrel (Bpmn.Props.C12.settle_holds_parent cfg p s hig fun t ht =>
    Bool.of_not_eq_false fun h => hno ⟨t, ht, h⟩)

theorem settle_release_subs (cfg : Cfg) (hr : cfg.subNeverReturns = false) (p : Proc) (s : St) (t : Tok)
    (hig : (settleIncl cfg p s []).1 = none)
    (hfind : (settleIncl cfg p s []).2.subs.find? (fun u => !liveInScope p (settleIncl cfg p s []).2 u.node []) = some t) :
    (settle cfg p s).2.subs = (settleIncl cfg p s []).2.subs.filter (· != t) := by
  rw [Bpmn.Props.C12.settle_of_none cfg p s hig, Bpmn.Lemmas.Engine.settleSubs_returns hr hfind]
  cases p.node? t.node with
  | none => rfl
  | some n => exact (nextTurn_subs ..).trans (Bpmn.Props.C01Fragment.selectFlows_subs ..)

/-- **Returning happens once per activation.** With the completion monitor on the inner tracer (`subNeverReturns = false`)
the parent token that `settle` releases is removed from `subs` by the same step. -/
theorem return_sub_once (cfg : Cfg) (hr : cfg.subNeverReturns = false) (p : Proc) (s : St) (t : Tok)
    (hig : (settleIncl cfg p s []).1 = none)
    (hfind : (settleIncl cfg p s []).2.subs.find? (fun u => !liveInScope p (settleIncl cfg p s []).2 u.node []) = some t)
    : t ∉ (settle cfg p s).2.subs := by
  rw [settle_release_subs cfg hr p s t hig hfind]
  simp

/-- **Returning does happen.** As soon as the work list is empty, no inclusive gateway synchronises and the scope of an
active sub-process holds no live token, `settle` hands back what `selectFlows` yields for the parent token `t` over the
sub-process node's own outgoing flows (what leaving any other node does), in SOME state `s'` in which `t` is no longer in
`subs` — the statement does not say how `s'` comes from `s`; `Lemmas/Engine.settleSubs_returns` names it. -/
theorem return_when_scope_empty (cfg : Cfg) (hr : cfg.subNeverReturns = false) (p : Proc) (s : St) (t : Tok) (n : Node)
    (hig : (settleIncl cfg p s []).1 = none)
    (hfind : (settleIncl cfg p s []).2.subs.find? (fun u => !liveInScope p (settleIncl cfg p s []).2 u.node []) = some t)
    (hn : p.node? t.node = some n) :
    ∃ s', (settle cfg p s).1 =
      (if (selectFlows cfg p s' t n.outs false).2.1 then [t] ++ (selectFlows cfg p s' t n.outs false).1
       else (selectFlows cfg p s' t n.outs false).1) ++
        -- … and the first token waiting at the node (if any) takes its turn: it arrives at the node again
        ((selectFlows cfg p s' t n.outs false).2.2.parked.find? (·.node == t.node)).toList ∧ t ∉ s'.subs := by
  -- `s'` is the state in which `t` has been taken out of `subs`
  exact ⟨_, by rw [Bpmn.Props.C12.settle_of_none cfg p s hig, Bpmn.Lemmas.Engine.settleSubs_returns hr hfind, hn, nextTurn_fst]; rfl,
    by simp⟩

/-- **Programs with sub-processes are token-game programs** at the configuration extracted from today's /repo: any nesting
depth, inside parallel branches, re-entered in loops — as long as the program has no inclusive gateway. -/
theorem sub_programs_are_token_game (p : Proc) (hp : Bpmn.Props.C01Fragment.NoIncl p) (vars : Vars)
    (ops : List (String × Nat × Answer)) :
    runOps Bpmn.Props.EngineCurrent.faithful p vars ops = runOps Cfg.ideal p vars ops :=
  Bpmn.Props.C01FragmentCurrent.current_noIncl_conformance p hp vars ops

theorem noIncl_of_filter (p : Proc) (h : p.nodes.filter (·.kind == .incl) = []) : Bpmn.Props.C01Fragment.NoIncl p := by
  intro n hn hk
  have := List.filter_eq_nil_iff.mp h n hn
  simp [hk] at this
  exact absurd this (by decide)

/-- answer the given requests one after the other from state `s`: the observations of every step, and the final state.
The other replay functions, all of them iterations of `answer`, and the lemmas that carry one to the next:

    C12Nest.traceC  (request names, occurrence 1)  ── traceC_steps ──┐
    C12Loop.roundsC (task "B", rounds j, j+1, …)   ── roundsC_steps ─┴─► stepsC ── stepsC_runOps ─► C01Conformance.runOps
    C01Chain.runChain = (traceC …).1               (C12Nest.trace_fst)                              (final state only)
-/
def stepsC (cfg : Cfg) (p : Proc) : St → List (String × Nat × Answer) → List (List Obs) × St
  | s, [] => ([], s)
  | s, (a, j, r) :: rest =>
    ((answer cfg p s a j r).obs :: (stepsC cfg p (answer cfg p s a j r) rest).1, (stepsC cfg p (answer cfg p s a j r) rest).2)

theorem runOps_nil (cfg : Cfg) (p : Proc) (vars : Vars) : runOps cfg p vars [] = start cfg p vars := rfl

theorem runOps_snoc (cfg : Cfg) (p : Proc) (vars : Vars) (pre : List (String × Nat × Answer)) (a : String) (j : Nat) (r : Answer) :
    runOps cfg p vars (pre ++ [(a, j, r)]) = answer cfg p (runOps cfg p vars pre) a j r := by
  simp [runOps, List.foldl_append]

theorem stepsC_runOps (cfg : Cfg) (p : Proc) (vars : Vars) : ∀ (ops pre : List (String × Nat × Answer)),
    stepsC cfg p (runOps cfg p vars pre) ops =
      ((List.range ops.length).map (fun n => (runOps cfg p vars (pre ++ ops.take (n + 1))).obs), runOps cfg p vars (pre ++ ops))
  | [], pre => by simp [stepsC]
  | (a, j, r) :: rest, pre => by
    simp only [stepsC, ← runOps_snoc, stepsC_runOps cfg p vars rest, List.length_cons, List.range_succ_eq_map, List.map_cons,
      List.map_map, List.append_assoc, List.singleton_append, List.take_succ_cons, List.take_zero]
    rfl

theorem start_current (p : Proc) (hp : Bpmn.Props.C01Fragment.NoIncl p) (vars : Vars) :
    start Bpmn.Props.EngineCurrent.faithful p vars = start Cfg.ideal p vars :=
  sub_programs_are_token_game p hp vars []

theorem stepsC_current (p : Proc) (hp : Bpmn.Props.C01Fragment.NoIncl p) (vars : Vars) (ops : List (String × Nat × Answer)) :
    stepsC Bpmn.Props.EngineCurrent.faithful p (start Bpmn.Props.EngineCurrent.faithful p vars) ops =
      stepsC Cfg.ideal p (start Cfg.ideal p vars) ops := by
  have h := fun cfg => stepsC_runOps cfg p vars ops []
  simp only [runOps_nil] at h
  rw [h, h]
  simp only [sub_programs_are_token_game p hp]

def opsOf (as : List (String × List (String × Int))) : List (String × Nat × Answer) := as.map (fun a => (a.1, 1, .ok a.2))

theorem traceC_steps (cfg : Cfg) (p : Proc) : ∀ (as : List (String × List (String × Int))) (s : St),
    Bpmn.Props.C12Nest.traceC cfg p s as = stepsC cfg p s (opsOf as)
  | [], _ => rfl
  | (a, r) :: rest, s => by simp only [Bpmn.Props.C12Nest.traceC, traceC_steps cfg p rest]; rfl

/-- **C12 at any nesting depth, for any chain inside, for today's engine model.** At the configuration extracted from /repo on
this run, every program of the nest shape (`Props/C12Nest.Shape`: `d ≥ 1` sub-process levels around a chain of `K ≥ 1` tasks,
one task behind them) runs as `Props/C12Nest.NestRun` says: the innermost tasks are requested one after the other; once the
last is answered every level returns, innermost first, exactly once; the following task is requested once; the instance
completes. -/
theorem nest_run_current (p : Proc) (d K : Nat) (U S E T : Nat → String) (sh : Bpmn.Props.C12Nest.Shape p d K U S E T)
    (vars : Vars) (rs : List (List (String × Int))) (hrs : rs.length = K + 1) :
    Bpmn.Props.C12Nest.NestRun p d K E T (start Bpmn.Props.EngineCurrent.faithful p vars)
      (Bpmn.Props.C12Nest.traceC Bpmn.Props.EngineCurrent.faithful p (start Bpmn.Props.EngineCurrent.faithful p vars)
        ((Bpmn.Props.C12Nest.namesFrom T 0 K ++ ["C"]).zip rs)) := by
  have hp := noIncl_of_filter p sh.noIncl
  rw [traceC_steps, stepsC_current p hp, ← traceC_steps, start_current p hp]
  exact Bpmn.Props.C12Nest.nest_run sh vars rs hrs

/-- … in particular on the concrete family `nestProc d K`, for every `d ≥ 1`, `K ≥ 1` -/
theorem nestProc_run_current (d K : Nat) (hd : 0 < d) (hK : 0 < K) (vars : Vars) (rs : List (List (String × Int)))
    (hrs : rs.length = K + 1) :
    Bpmn.Props.C12Nest.NestRun (Bpmn.Props.C12Nest.nestProc d K) d K (Bpmn.Props.C12Nest.nm 'E') (Bpmn.Props.C12Nest.nm 'T')
      (start Bpmn.Props.EngineCurrent.faithful (Bpmn.Props.C12Nest.nestProc d K) vars)
      (Bpmn.Props.C12Nest.traceC Bpmn.Props.EngineCurrent.faithful (Bpmn.Props.C12Nest.nestProc d K)
        (start Bpmn.Props.EngineCurrent.faithful (Bpmn.Props.C12Nest.nestProc d K) vars)
        ((Bpmn.Props.C12Nest.namesFrom (Bpmn.Props.C12Nest.nm 'T') 0 K ++ ["C"]).zip rs)) :=
  nest_run_current _ d K _ _ _ _ (Bpmn.Props.C12Nest.nest_shape d K hd hK) vars rs hrs

/-- the model's nest of depth 3 around 2 tasks really is the program one would draw (executable check of the constructor) -/
example : ((Bpmn.Props.C12Nest.nestProc 3 2).nodes.map (·.id), (start Cfg.ideal (Bpmn.Props.C12Nest.nestProc 3 2) []).obs) =
    (["s", "C", "e", "U", "Ux", "Uxx", "S", "Sx", "Sxx", "E", "Ex", "Exx", "T", "Tx"], [.req "T"]) := by decide +kernel

/-- the driver's answers of the loop as `runOps` operations: round `j`, `j + 1`, … -/
def loopOps : Nat → List Int → List (String × Nat × Answer)
  | _, [] => []
  | j, v :: vs => ("B", j, .ok [("c", v)]) :: loopOps (j + 1) vs

theorem roundsC_steps (cfg : Cfg) (N : Int) : ∀ (vs : List Int) (j : Nat) (s : St),
    Bpmn.Props.C12Loop.roundsC cfg N j s vs = stepsC cfg (Bpmn.Props.C12Loop.loopProc N) s (loopOps j vs)
  | [], _, _ => rfl
  | v :: vs, j, s => by simp only [Bpmn.Props.C12Loop.roundsC, roundsC_steps cfg N vs]; rfl

theorem loopOps_length : ∀ (vs : List Int) (j : Nat), (loopOps j vs).length = vs.length
  | [], _ => rfl
  | _ :: vs, j => congrArg (· + 1) (loopOps_length vs (j + 1))

theorem loopOps_snoc (last : Int) : ∀ (vs : List Int) (j : Nat),
    loopOps j (vs ++ [last]) = loopOps j vs ++ [("B", j + vs.length, .ok [("c", last)])]
  | [], _ => rfl
  | v :: vs, j => by simp [loopOps, loopOps_snoc last vs (j + 1)]; omega

theorem roundsC_runOps (cfg : Cfg) (N : Int) (vars : Vars) : ∀ (vs : List Int) (j : Nat) (pre : List (String × Nat × Answer)),
    Bpmn.Props.C12Loop.roundsC cfg N j (runOps cfg (Bpmn.Props.C12Loop.loopProc N) vars pre) vs =
      ((List.range vs.length).map (fun n => (runOps cfg (Bpmn.Props.C12Loop.loopProc N) vars (pre ++ (loopOps j vs).take (n + 1))).obs),
       runOps cfg (Bpmn.Props.C12Loop.loopProc N) vars (pre ++ loopOps j vs)) := by
  intro vs j pre
  rw [roundsC_steps, stepsC_runOps, loopOps_length]

/-- **A sub-process entered again and again, for today's engine model.** At the configuration extracted from /repo on this
run the loop of `Props/C12Loop` runs as the token game does: `k` rounds with values below the bound `N`, then one at or above
it — the inner task is requested once per activation of the sub-process, `k + 1` times in all, and the instance completes. -/
theorem loop_run_current (N : Int) (vars : Vars) (vs : List Int) (last : Int) (hvs : ∀ v ∈ vs, v < N) (hlast : ¬ last < N) :
    (start Bpmn.Props.EngineCurrent.faithful (Bpmn.Props.C12Loop.loopProc N) vars).obs = [.req "B"] ∧
    (Bpmn.Props.C12Loop.roundsC Bpmn.Props.EngineCurrent.faithful N 1
      (start Bpmn.Props.EngineCurrent.faithful (Bpmn.Props.C12Loop.loopProc N) vars) vs).1 =
        vs.map (fun _ => [Obs.complete "ue", Obs.req "B"]) ∧
    (runOps Bpmn.Props.EngineCurrent.faithful (Bpmn.Props.C12Loop.loopProc N) vars (loopOps 1 (vs ++ [last]))).obs =
      [.complete "ue", .complete "e"] ∧
    (runOps Bpmn.Props.EngineCurrent.faithful (Bpmn.Props.C12Loop.loopProc N) vars (loopOps 1 (vs ++ [last]))).topLive
      (Bpmn.Props.C12Loop.loopProc N) = false := by
  have hp := noIncl_of_filter _ (Bpmn.Props.C12Loop.noIncl N)
  obtain ⟨o0, o1, o2, t2, _⟩ := Bpmn.Props.C12Loop.loop_run N vars vs last hvs hlast
  have hfin : runOps Cfg.ideal (Bpmn.Props.C12Loop.loopProc N) vars (loopOps 1 (vs ++ [last])) =
      answer Cfg.ideal (Bpmn.Props.C12Loop.loopProc N)
        (Bpmn.Props.C12Loop.rounds N 1 (start Cfg.ideal (Bpmn.Props.C12Loop.loopProc N) vars) vs).2 "B" (1 + vs.length) (.ok [("c", last)]) := by
    have h := congrArg Prod.snd (roundsC_runOps Cfg.ideal N vars vs 1 [])
    rw [runOps_nil] at h
    rw [loopOps_snoc, runOps_snoc]
    exact congrArg (answer Cfg.ideal _ · "B" (1 + vs.length) _) h.symm
  refine ⟨?_, ?_, ?_, ?_⟩
  · rw [start_current _ hp]; exact o0
  · rw [roundsC_steps, stepsC_current _ hp, ← roundsC_steps]; exact o1
  · rw [sub_programs_are_token_game _ hp, hfin]; exact o2
  · rw [sub_programs_are_token_game _ hp, hfin]; exact t2

/-- non-vacuity: the nested, looped sub-process program of Props/C01Fragment has sub-processes and no inclusive gateway -/
example : Bpmn.Props.C01Fragment.NoIncl Bpmn.Props.C01Fragment.demoSub ∧
    Bpmn.Props.C01Fragment.demoSub.nodes.any (·.kind == .sub) = true := by decide

end Bpmn.Props.C12Steps
