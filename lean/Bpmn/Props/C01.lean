import Bpmn.Model.Engine
/-!
# C01 — Token flow conforms to BPMN semantics

The engine model (`Bpmn.Model.Engine`) is ONE executable semantics, parametric in `Cfg`; `Cfg.ideal` is the
BPMN token game, the extracted configuration is what the code does. The theorems here concern the kernel
`selectFlows` (the `flowAction` branch of `flow.Start`) and the step `arrive`/`answer` of the engine:
for every list of outgoing flows, every condition outcome and every state.
-/
namespace Bpmn.Props.C01
open Bpmn.Model Bpmn.Model.Engine

theorem forkToks_aux (p : Proc) (fls : List String) :
    ∀ (acc : List Tok) (s : St),
      let r := fls.foldl (fun (x : List Tok × St) fl =>
          (x.1 ++ [({ fid := x.2.nextFid, node := flowDst p fl } : Tok)], { x.2 with nextFid := x.2.nextFid + 1 }))
          (acc, s)
      r.1.map (·.node) = acc.map (·.node) ++ fls.map (flowDst p) ∧
      r.1.map (·.fid) = acc.map (·.fid) ++ (List.range fls.length).map (· + s.nextFid) := by
  induction fls with
  | nil => intro acc s; simp
  | cons f fs ih =>
    intro acc s
    simp only [List.foldl_cons]
    obtain ⟨h1, h2⟩ := ih (acc ++ [({ fid := s.nextFid, node := flowDst p f } : Tok)]) { s with nextFid := s.nextFid + 1 }
    refine ⟨by rw [h1]; simp, ?_⟩
    rw [h2]
    simp only [List.map_append, List.map_cons, List.map_nil, List.append_assoc, List.length_cons,
      List.range_succ_eq_map, List.map_map]
    congr 1
    simp only [List.cons_append, List.nil_append, Nat.zero_add, List.cons.injEq, true_and]
    apply List.map_congr_left
    intro a _
    simp only [Function.comp]
    omega

theorem forkToks_spec (p : Proc) (s : St) (fls : List String) :
    (forkToks p s fls).1.map (·.node) = fls.map (flowDst p) ∧
    (forkToks p s fls).1.map (·.fid) = (List.range fls.length).map (· + s.nextFid) := by
  have := forkToks_aux p fls [] s
  simpa [forkToks] using this

def effective (p : Proc) (s : St) (fls : List String) (unc : Bool) : List String :=
  ((evalFlows p s fls unc).1.filter (·.2)).map (·.1)

/-- **Kernel specification.** When the token continues on the first EFFECTIVE flow (`firstFlowDecides = false`,
the configuration of the repaired code and of the token game): the token never remains at the node, it is
consumed iff no flow is effective, and otherwise the tokens that leave are exactly one per effective flow,
in list order, the arriving token itself travelling along the first of them. -/
theorem selectFlows_spec (cfg : Cfg) (h : cfg.firstFlowDecides = false) (p : Proc) (s : St) (t : Tok)
    (fls : List String) (unc : Bool) :
    let r := selectFlows cfg p s t fls unc
    r.2.1 = false ∧
    r.1.map (·.node) = (effective p s fls unc).map (flowDst p) ∧
    (r.1 = [] ↔ effective p s fls unc = []) ∧
    (∀ tk ∈ r.1.head?, tk.fid = t.fid) := by
  cases fls with
  | nil => simp [selectFlows, effective, evalFlows]
  | cons first rest =>
    simp only [selectFlows, effective, h, Bool.false_and, Bool.false_eq_true, if_false]
    cases he : List.map (fun x => x.1) (List.filter (fun x => x.2) (evalFlows p s (first :: rest) unc).1) with
    | nil => simp
    | cons e0 es =>
      simp only
      have hf := forkToks_spec p (evalFlows p s (first :: rest) unc).2 es
      refine ⟨trivial, ?_, by simp, by simp⟩
      simp only [List.map_cons, hf.1]

/-- **The defect that was repaired (D1).** If the token may only continue on the FIRST listed flow, there is a
state in which it stays at an activity although a later flow is effective — the activity is then requested
again. Concrete witness: two outgoing flows, `x == 1` and no condition, with `x = 0`. -/
def d1Proc : Proc :=
  { nodes := [{ id := "A", kind := .task, ins := [], outs := ["f1", "f2"] }, { id := "B", kind := .task, ins := ["f1"], outs := [] },
              { id := "C", kind := .task, ins := ["f2"], outs := [] }],
    flows := [{ id := "f1", src := "A", dst := "B", cond := .eq "x" 1 }, { id := "f2", src := "A", dst := "C", cond := .none }] }

theorem C01_counterexample_first_flow_decides :
    let cfg : Cfg := { Cfg.ideal with firstFlowDecides := true }
    let r := selectFlows cfg d1Proc { vars := [("x", 0)] } { fid := 1, node := "A" } ["f1", "f2"] false
    r.2.1 = true ∧ r.1.map (·.node) = ["C"] := by
  decide +kernel

/-- A token arriving at an activity is never skipped and never requested twice: `arrive` emits exactly one
request for that node, parks exactly that token, and lets no token run on. -/
theorem arrive_task (cfg : Cfg) (p : Proc) (s : St) (t : Tok) (n : Node) (hn : p.node? t.node = some n)
    (hk : n.kind = .task) :
    let r := arrive cfg p s t
    r.1 = [] ∧ r.2.obs = s.obs ++ [.req n.id] ∧
    r.2.pending = s.pending ++ [(t, (bumpOcc s n.id).1)] := by
  simp [arrive, hn, hk, St.emit, bumpOcc]

/-- An end event consumes the token and records the completion. -/
theorem arrive_end (cfg : Cfg) (p : Proc) (s : St) (t : Tok) (n : Node) (hn : p.node? t.node = some n)
    (hk : n.kind = .end_) :
    (arrive cfg p s t).1 = [] ∧ (arrive cfg p s t).2.obs = s.obs ++ [.complete n.id] := by
  simp [arrive, hn, hk, St.emit, St.recordTerm]

theorem find_map_ne (vs : Vars) (nm k : String) (v : Int) (hne : nm ≠ k) :
    (vs.map (fun p => if p.1 == nm then (nm, v) else p)).find? (·.1 == k) =
      (vs.find? (·.1 == k)).map (fun p => if p.1 == nm then (nm, v) else p) := by
  induction vs with
  | nil => rfl
  | cons x xs ih =>
    by_cases hx : x.1 = nm
    · have hnk : (nm == k) = false := by simpa using hne
      have hxk : (x.1 == k) = false := by rw [hx]; exact hnk
      simp only [List.map_cons, hx, beq_self_eq_true, if_true, List.find?_cons, hnk]
      rw [hx] at hxk
      exact ih
    · have hx' : (x.1 == nm) = false := by simpa using hx
      simp only [List.map_cons, hx', Bool.false_eq_true, if_false, List.find?_cons]
      cases hxk : (x.1 == k) with
      | true => simp [hx]
      | false => exact ih

theorem get_set_ne (vs : Vars) (nm k : String) (v : Int) (hne : nm ≠ k) : (vs.set nm v).get k = vs.get k := by
  unfold Vars.set Vars.get
  by_cases hany : vs.any (·.1 == nm) = true
  · rw [if_pos hany, find_map_ne vs nm k v hne]
    cases hf : vs.find? (fun x => x.1 == k) with
    | none => rfl
    | some q =>
      have hq : (q.1 == k) = true := by
        have := List.find?_some hf
        simpa using this
      have : q.1 ≠ nm := by
        intro e
        have : q.1 = k := by simpa using hq
        exact hne (e ▸ this)
      have hqn : (q.1 == nm) = false := by simpa using this
      simp [this]
  · rw [if_neg hany]
    have hnk : (nm == k) = false := by simpa using hne
    simp [List.find?_append, hnk]

/-- Only declared result fields are stored (`ApplyTaskResult`): an undeclared name never changes a variable. -/
theorem applyDeclared_undeclared (n : Node) (vars : Vars) (results : List (String × Int)) (k : String)
    (hk : k ∉ n.results) : (applyDeclared n vars results).get k = vars.get k := by
  unfold applyDeclared
  by_cases hr : n.hasResults = true
  · simp only [hr, Bool.not_true, Bool.false_eq_true, if_false]
    have key : ∀ (names : List String) (vs : Vars), k ∉ names →
        (names.foldl (fun vs name => match results.find? (·.1 == name) with
          | some (_, v) => vs.set name v
          | none => vs) vs).get k = vs.get k := by
      intro names
      induction names with
      | nil => intro vs _; rfl
      | cons nm rest ih =>
        intro vs hnot
        simp only [List.foldl_cons]
        have hne : nm ≠ k := fun e => hnot (by simp [e])
        have hrest : k ∉ rest := fun e => hnot (by simp [e])
        rw [ih _ hrest]
        cases results.find? (·.1 == nm) with
        | none => rfl
        | some q => exact get_set_ne vs nm k q.2 hne
    exact key n.results vars hk
  · simp [hr]

/-- the full statement of C01 on the model (what `conformance` means): for every program, data, and answer
order, the run of the code's configuration equals the run of the token game -/
def C01_statement (faithful : Cfg) : Prop :=
  ∀ (p : Proc) (vars : Vars), start faithful p vars = start Cfg.ideal p vars ∧
    ∀ (s : St) (node : String) (occ : Nat) (a : Answer), answer faithful p s node occ a = answer Cfg.ideal p s node occ a

/-- `C01_statement` holds trivially for a code configuration without deviation; every remaining deviation is a
known finding with its own witness (inclusive cohort: Props/C05, sub-process re-entry: Props/C12). -/
theorem C01_conformance_of_no_deviation : C01_statement Cfg.ideal := by
  intro p vars; exact ⟨rfl, fun _ _ _ _ => rfl⟩

example : effective d1Proc { vars := [("x", 1)] } ["f1", "f2"] false = ["f1", "f2"] := by decide

end Bpmn.Props.C01
