import Bpmn.Props.C01Conformance
/-!
# C01 — UNCONDITIONAL conformance on the fragment without inclusive gateways and sub-processes

`Props/C01Conformance` proves: a run of the code configuration that logs no deviation cause IS a run of the token game.
This file removes the side condition for a syntactic class of programs. For EVERY program — any graph, block structured
or not, of any size — whose nodes are start / end events, activities (with any number of conditional or unconditional
outgoing flows), exclusive and parallel gateways, catch / throw events (everything except inclusive gateways and embedded
sub-processes), every configuration `cfg` of the code with the repaired switches `firstFlowDecides = false` and
`throwFuse = false` (extracted facts, `Props/EngineCurrent`), every initial data and every sequence of driver answers (ok / error with any handler mode,
also answers to requests that do not exist):

* the run never logs a cause (`fragment_never_deviates`), hence
* it IS the run of the BPMN token game `Cfg.ideal`, state by state (`fragment_conformance`) —
  same requests in the same order, same completions, same error traces, same variables, same parked tokens.

The three remaining switches (`inclCohort`, `subNeverReturns`, `subStartSticky`) are arbitrary: they cannot be observed on
this fragment. So the known findings about inclusive joins and sub-process re-entry are the ONLY ways in which the engine
model at today's extracted configuration can leave the token game.

Both results come from one invariant of the work loop (`Quiet`): the log is never written — because the switches that write it
are off, or because they are read only at a sub-process node or with a token inside a sub-process, and there is none.
-/
namespace Bpmn.Props.C01Fragment
open Bpmn.Model Bpmn.Model.Engine Bpmn.Lemmas.Engine Bpmn.Props.C01Conformance

def Fragment (p : Proc) : Prop := ∀ n ∈ p.nodes, n.kind ≠ .incl ∧ n.kind ≠ .sub

instance (p : Proc) : Decidable (Fragment p) := by unfold Fragment; infer_instance

structure Clean (s : St) : Prop where
  causes : s.causes = []
  subs : s.subs = []

def NoIncl (p : Proc) : Prop := ∀ n ∈ p.nodes, n.kind ≠ .incl

instance (p : Proc) : Decidable (NoIncl p) := by unfold NoIncl; infer_instance

structure Repaired (cfg : Cfg) : Prop where
  firstFlow : cfg.firstFlowDecides = false
  subReturns : cfg.subNeverReturns = false
  subRearmed : cfg.subStartSticky = false
  throwPasses : cfg.throwFuse = false

theorem noIncl_filter (p : Proc) (hp : NoIncl p) : p.nodes.filter (·.kind == .incl) = [] := by
  apply List.filter_eq_nil_iff.mpr
  intro n hn
  have := hp n hn
  revert this
  cases n.kind <;> intro h <;> first | decide | exact absurd rfl h

theorem mem_of_node? {p : Proc} {id : String} {n : Node} (h : p.node? id = some n) : n ∈ p.nodes :=
  List.mem_of_find?_eq_some h

/-- the program and the configuration are such that the log is never written: no join decision is taken, the token leaves
over the first effective flow, throw events let every token pass, and the two sub-process switches are off or there is no
sub-process node to read them at -/
structure Tame (cfg : Cfg) (p : Proc) : Prop where
  firstFlow : cfg.firstFlowDecides = false
  throwPasses : cfg.throwFuse = false
  noIncl : NoIncl p
  subs : (cfg.subNeverReturns = false ∧ cfg.subStartSticky = false) ∨ ∀ n ∈ p.nodes, n.kind ≠ .sub

def Quiet (p : Proc) (c : List String) (s : St) : Prop :=
  s.causes = c ∧ ((∀ n ∈ p.nodes, n.kind ≠ .sub) → s.subs = [])

theorem Quiet.of_eq {p : Proc} {c : List String} {s s' : St} (h : Quiet p c s) (hc : s'.causes = s.causes)
    (hs : s'.subs = s.subs) : Quiet p c s' :=
  ⟨hc.trans h.1, fun hns => hs.trans (h.2 hns)⟩

section
variable {cfg : Cfg} {p : Proc} (ht : Tame cfg p) {c : List String}
include ht

theorem arrive_quiet' (s : St) (t : Tok) (h : Quiet p c s) : Quiet p c (arrive cfg p s t).2 :=
  ⟨(arrive_quiet ht.firstFlow ht.throwPasses s t
      (ht.subs.imp And.right fun hns n hn => hns n (mem_of_node? hn))).trans h.1,
   fun hns => (arrive_subs_of_ne_sub cfg p s t fun n hn => hns n (mem_of_node? hn)).trans (h.2 hns)⟩

theorem settle_quiet (s : St) (h : Quiet p c s) : Quiet p c (settle cfg p s).2 := by
  rw [settle_noIncl cfg (noIncl_filter p ht.noIncl)]
  refine ⟨(settleSubs_quiet ht.firstFlow s (ht.subs.imp And.left h.2)).trans h.1, fun hns => ?_⟩
  rw [settleSubs_idle (by rw [h.2 hns]; rfl)]
  exact h.2 hns

theorem runWork_quiet (fuel : Nat) (toks : List Tok) (s : St) (h : Quiet p c s) :
    Quiet p c (runWork cfg p fuel toks s) := by
  refine runWork_inv (Quiet p c) (fun s why h => h.of_eq (oos_causes s why) (oos_subs s why))
    (arrive_quiet' ht) (fun s w h => ?_) (settle_quiet ht) fuel toks s h
  rw [← settleIncl_tie, settleInclW_none _ (noIncl_filter p ht.noIncl)]
  exact h

theorem start_quiet (vars : Vars) : Quiet p [] (start cfg p vars) :=
  runWork_quiet ht _ _ _ ⟨spawnStarts_causes .., fun _ => spawnStarts_subs ..⟩

theorem answer_quiet (s : St) (node : String) (occ : Nat) (a : Answer) (h : Quiet p c s) :
    Quiet p c (answer cfg p s node occ a) := by
  rcases answer_cases cfg p s node occ a with ⟨why, hq⟩ | ⟨toks, s1, hq, hc, hs⟩ | ⟨s1, t, fls, hq, hc, hs⟩ <;> rw [hq]
  · exact h.of_eq (oos_causes ..) (oos_subs ..)
  · exact runWork_quiet ht _ _ _ (h.of_eq hc hs)
  · exact runWork_quiet ht _ _ _ ((h.of_eq hc hs).of_eq (leave_quiet ht.firstFlow ..) (selectFlows_subs ..))

theorem runOps_quiet (vars : Vars) (ops : List (String × Nat × Answer)) : Quiet p [] (runOps cfg p vars ops) :=
  runOps_inv (Quiet p []) (fun s n o a => answer_quiet ht s n o a) vars (start_quiet ht vars) ops

end

theorem fragment_tame {cfg : Cfg} (hff : cfg.firstFlowDecides = false) (htf : cfg.throwFuse = false) {p : Proc}
    (hp : Fragment p) : Tame cfg p :=
  ⟨hff, htf, fun n hn => (hp n hn).1, Or.inr fun n hn => (hp n hn).2⟩

theorem runOps_clean (cfg : Cfg) (hff : cfg.firstFlowDecides = false) (htf : cfg.throwFuse = false) (p : Proc)
    (hp : Fragment p) (vars : Vars) (ops : List (String × Nat × Answer)) : Clean (runOps cfg p vars ops) :=
  have h := runOps_quiet (fragment_tame hff htf hp) vars ops
  ⟨h.1, h.2 fun n hn => (hp n hn).2⟩

/-- **No deviation on the fragment.** Whatever the program (without inclusive gateways and sub-processes), the data and
the answers: the code configuration never logs a cause. -/
theorem fragment_never_deviates (cfg : Cfg) (hff : cfg.firstFlowDecides = false) (htf : cfg.throwFuse = false) (p : Proc) (hp : Fragment p)
    (vars : Vars) (ops : List (String × Nat × Answer)) : (runOps cfg p vars ops).causes = [] :=
  (runOps_clean cfg hff htf p hp vars ops).causes

/-- **The inclusive gateway is the only way out of the token game.** With the four repaired switches off, no program
without inclusive gateways — sub-processes of any nesting included — ever logs a cause, whatever the data and answers. -/
theorem noIncl_never_deviates (cfg : Cfg) (hc : Repaired cfg) (p : Proc) (hp : NoIncl p)
    (vars : Vars) (ops : List (String × Nat × Answer)) : (runOps cfg p vars ops).causes = [] :=
  (runOps_quiet ⟨hc.firstFlow, hc.throwPasses, hp, Or.inl ⟨hc.subReturns, hc.subRearmed⟩⟩ vars ops).1

def noCohort (cfg : Cfg) : Cfg := { cfg with inclCohort := false }

theorem selectFlows_noCohort (cfg : Cfg) (p : Proc) (s : St) (t : Tok) (fls : List String) (u : Bool) :
    selectFlows (noCohort cfg) p s t fls u = selectFlows cfg p s t fls u :=
  selectFlows_joinSwitches cfg false cfg.lateJoin p s t fls u

theorem arrive_noCohort (cfg : Cfg) (p : Proc) (s : St) (t : Tok) : arrive (noCohort cfg) p s t = arrive cfg p s t :=
  arrive_joinSwitches cfg false cfg.lateJoin p s t

/-- the switch is read by `igReady` only, and `igReady` is not asked -/
theorem runWorkW_noCohort (cfg : Cfg) (p : Proc) (hp : NoIncl p) (fuel : Nat) (toks : List Tok) (s : St) :
    Bpmn.Spec.TokenGame.runWorkW (igReady (noCohort cfg)) (noCohort cfg) p fuel toks s =
      Bpmn.Spec.TokenGame.runWorkW (igReady cfg) cfg p fuel toks s :=
  (runWorkW_joinSwitches _ cfg false cfg.lateJoin p fuel toks s).trans
    (runWorkW_noIncl _ _ cfg (noIncl_filter p hp) fuel toks s)

theorem runWork_noCohort' (cfg : Cfg) (p : Proc) (hp : NoIncl p) :
    ∀ (fuel : Nat) (toks : List Tok) (s : St), runWork (noCohort cfg) p fuel toks s = runWork cfg p fuel toks s := by
  intro fuel toks s
  rw [← runWork_tie, ← runWork_tie]
  exact runWorkW_noCohort cfg p hp fuel toks s

theorem answer_noCohort' (cfg : Cfg) (p : Proc) (hp : NoIncl p) (s : St) (node : String) (occ : Nat) (a : Answer) :
    answer (noCohort cfg) p s node occ a = answer cfg p s node occ a := by
  rw [← answer_tie, ← answer_tie]
  exact answerW_congr (runWorkW_noCohort cfg p hp) (answerPrep_joinSwitches cfg false cfg.lateJoin p) ..

theorem runOps_noCohort' (cfg : Cfg) (p : Proc) (hp : NoIncl p) (vars : Vars) (ops : List (String × Nat × Answer)) :
    runOps (noCohort cfg) p vars ops = runOps cfg p vars ops := by
  refine foldl_answers_congr (answer_noCohort' cfg p hp) ?_ ops
  rw [← start_tie, ← start_tie]
  exact runWorkW_noCohort cfg p hp _ _ _

/-- **C01 for every program without inclusive gateways, unconditionally** (sequences, exclusive and parallel blocks, loops,
conditional flows leaving activities, embedded sub-processes at any depth and re-entered any number of times, and any
unstructured graph of those nodes): at a code configuration with the four repaired switches off — whatever the cohort
switch — every run IS the run of the BPMN token game, state by state. -/
theorem noIncl_conformance (cfg : Cfg) (hc : Repaired cfg) (h1 : cfg.eagerSettle = false) (h2 : cfg.lateJoin = false)
    (p : Proc) (hp : NoIncl p) (vars : Vars) (ops : List (String × Nat × Answer)) :
    runOps cfg p vars ops = runOps Cfg.ideal p vars ops := by
  rw [← runOps_noCohort' cfg p hp]
  apply conformance_runOps_ideal (noCohort cfg) h1 h2 rfl
  exact noIncl_never_deviates (noCohort cfg) ⟨hc.firstFlow, hc.subReturns, hc.subRearmed, hc.throwPasses⟩ p hp vars ops

/-- **C01 on the fragment, unconditionally.** For every program without inclusive gateways and sub-processes — any
graph, any size, any conditions — every code configuration with `firstFlowDecides = false` and `throwFuse = false`, every data and every answer
sequence, the run of the code configuration IS the run of the token game `Cfg.ideal`: every activity is requested exactly
as often, and in the order, the token game prescribes; the same end events are reached with the same variables. -/
theorem fragment_conformance (cfg : Cfg) (hff : cfg.firstFlowDecides = false) (htf : cfg.throwFuse = false) (h1 : cfg.eagerSettle = false)
    (h2 : cfg.lateJoin = false) (p : Proc) (hp : Fragment p) (vars : Vars) (ops : List (String × Nat × Answer)) :
    runOps cfg p vars ops = runOps Cfg.ideal p vars ops := by
  rw [← runOps_noCohort' cfg p fun n hn => (hp n hn).1]
  apply conformance_runOps_ideal (noCohort cfg) h1 h2 rfl
  exact fragment_never_deviates (noCohort cfg) hff htf p hp vars ops

/-- it cannot be extended to inclusive gateways: `C01Conformance_counterexample` is a program with inclusive gateways on
which the configuration with only the cohort switch on leaves `Cfg.ideal` -/
theorem noIncl_hypothesis_needed : ¬ (∀ (p : Proc) (vars : Vars) (ops : List (String × Nat × Answer)),
    runOps cohortCfg p vars ops = runOps Cfg.ideal p vars ops) := by
  intro h
  exact C01Conformance_counterexample (fun p vars ops _ => h p vars ops)

/-! ## non-vacuity: a program of the fragment with an exclusive loop, a parallel block and conditional flows -/

/-- s → X1(merge) → A → X2(split: v<2 back to X1 | default on) → P1(par fork) → {B, C} → P2(par join) → D(two conditional
flows) → {e1 | e2} -/
def demoProc : Proc :=
  { nodes := [
      { id := "s", kind := .start, ins := [], outs := ["f0"] },
      { id := "X1", kind := .xor, ins := ["f0", "f3"], outs := ["f1"] },
      { id := "A", kind := .task, ins := ["f1"], outs := ["f2"], results := ["v"], hasResults := true },
      { id := "X2", kind := .xor, ins := ["f2"], outs := ["f3", "f4"], dflt := some "f4" },
      { id := "P1", kind := .par, ins := ["f4"], outs := ["f5", "f6"] },
      { id := "B", kind := .task, ins := ["f5"], outs := ["f7"] },
      { id := "C", kind := .task, ins := ["f6"], outs := ["f8"] },
      { id := "P2", kind := .par, ins := ["f7", "f8"], outs := ["f9"] },
      { id := "D", kind := .task, ins := ["f9"], outs := ["f10", "f11"] },
      { id := "e1", kind := .end_, ins := ["f10"], outs := [] },
      { id := "e2", kind := .end_, ins := ["f11"], outs := [] }],
    flows := [
      { id := "f0", src := "s", dst := "X1", cond := .none }, { id := "f1", src := "X1", dst := "A", cond := .none },
      { id := "f2", src := "A", dst := "X2", cond := .none },
      { id := "f3", src := "X2", dst := "X1", cond := .lt "v" 2 },
      { id := "f4", src := "X2", dst := "P1", cond := .none },
      { id := "f5", src := "P1", dst := "B", cond := .none }, { id := "f6", src := "P1", dst := "C", cond := .none },
      { id := "f7", src := "B", dst := "P2", cond := .none }, { id := "f8", src := "C", dst := "P2", cond := .none },
      { id := "f9", src := "P2", dst := "D", cond := .none },
      { id := "f10", src := "D", dst := "e1", cond := .eq "v" 2 },
      { id := "f11", src := "D", dst := "e2", cond := .eq "v" 9 }] }

example : Fragment demoProc := by decide

/-- a sub-process in a loop: s → X1 → U( us → A → ue ) → X2 (v<2 back to X1 | default) → e -/
def demoSub : Proc :=
  { nodes := [
      { id := "s", kind := .start, ins := [], outs := ["f0"] },
      { id := "X1", kind := .xor, ins := ["f0", "f3"], outs := ["f1"] },
      { id := "U", kind := .sub, ins := ["f1"], outs := ["f2"] },
      { id := "us", kind := .start, ins := [], outs := ["g0"], parent := "U" },
      { id := "A", kind := .task, ins := ["g0"], outs := ["g1"], parent := "U", results := ["v"], hasResults := true },
      { id := "ue", kind := .end_, ins := ["g1"], outs := [], parent := "U" },
      { id := "X2", kind := .xor, ins := ["f2"], outs := ["f3", "f4"], dflt := some "f4" },
      { id := "e", kind := .end_, ins := ["f4"], outs := [] }],
    flows := [
      { id := "f0", src := "s", dst := "X1", cond := .none }, { id := "f1", src := "X1", dst := "U", cond := .none },
      { id := "f2", src := "U", dst := "X2", cond := .none }, { id := "f3", src := "X2", dst := "X1", cond := .lt "v" 2 },
      { id := "f4", src := "X2", dst := "e", cond := .none },
      { id := "g0", src := "us", dst := "A", cond := .none }, { id := "g1", src := "A", dst := "ue", cond := .none }] }

example : NoIncl demoSub := by decide
example : ¬ Fragment demoSub := by decide
/-- the loop is taken: A is requested twice, then the end event is reached -/
example : (runOps Cfg.ideal demoSub [] [("A", 1, .ok [("v", 1)]), ("A", 2, .ok [("v", 2)])]).obs =
    [.complete "ue", .complete "e"] := by decide +kernel
example : (runOps Cfg.ideal demoProc [] [("A", 1, .ok [("v", 2)]), ("C", 1, .ok []), ("B", 1, .ok [])]).obs =
    [.complete "P2", .req "D"] := by decide +kernel

/-! ## intermediate throw events: every token passes (D38)

`s → P1(par fork) → {A, B} → H (throw event, both branches meet here without a join) → C → e`: two tokens reach `H`. -/
def demoThrow : Proc :=
  { nodes := [
      { id := "s", kind := .start, ins := [], outs := ["f0"] },
      { id := "P1", kind := .par, ins := ["f0"], outs := ["f1", "f2"] },
      { id := "A", kind := .task, ins := ["f1"], outs := ["f3"] },
      { id := "B", kind := .task, ins := ["f2"], outs := ["f4"] },
      { id := "H", kind := .throw_, ins := ["f3", "f4"], outs := ["f5"] },
      { id := "C", kind := .task, ins := ["f5"], outs := ["f6"] },
      { id := "e", kind := .end_, ins := ["f6"], outs := [] }],
    flows := [
      { id := "f0", src := "s", dst := "P1", cond := .none }, { id := "f1", src := "P1", dst := "A", cond := .none },
      { id := "f2", src := "P1", dst := "B", cond := .none }, { id := "f3", src := "A", dst := "H", cond := .none },
      { id := "f4", src := "B", dst := "H", cond := .none }, { id := "f5", src := "H", dst := "C", cond := .none },
      { id := "f6", src := "C", dst := "e", cond := .none }] }

example : Fragment demoThrow := by decide

/-- the token game: both tokens pass the throw event, C is requested twice -/
example : ((runOps Cfg.ideal demoThrow [] [("A", 1, .ok []), ("B", 1, .ok [])]).pending.map (·.1.node)) = ["C", "C"] := by decide +kernel

/-- the configuration with ONLY the throw-event switch on (the code before the repair f5a8c41) -/
def throwFuseCfg : Cfg := { Cfg.ideal with throwFuse := true }

/-- **the hypothesis `throwFuse = false` is needed** (kernel-checked witness of D38): with the switch on the second token
is consumed at the throw event — C is requested once, the deviation is logged — so the run is not the token game's -/
theorem throwFuse_hypothesis_needed :
    ((runOps throwFuseCfg demoThrow [] [("A", 1, .ok []), ("B", 1, .ok [])]).pending.map (·.1.node)) = ["C"] ∧
    (runOps throwFuseCfg demoThrow [] [("A", 1, .ok []), ("B", 1, .ok [])]).causes = ["throw_fused"] ∧
    ¬ (∀ (p : Proc) (_ : Fragment p) (vars : Vars) (ops : List (String × Nat × Answer)),
        runOps throwFuseCfg p vars ops = runOps Cfg.ideal p vars ops) := by
  refine ⟨by decide, by decide, ?_⟩
  intro h
  have := congrArg (fun s => s.pending.map (·.1.node)) (h demoThrow (by decide) [] [("A", 1, .ok []), ("B", 1, .ok [])])
  revert this
  decide

end Bpmn.Props.C01Fragment
