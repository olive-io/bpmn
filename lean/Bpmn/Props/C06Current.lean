import Bpmn.Props.C06
import Bpmn.Gen.C06
/-! C06 instantiated at the facts extracted from the current /repo tree (`Bpmn.Gen.C06`, regenerated on every run).
Every verdict is an if-then-else dichotomy proved for both sides, so this module type-checks on either side of a
repair: buffering the termination channels (and leaving the map variable alone) turns `current_no_block` from the
D5 witness into the theorem, buffering the reply channel does the same for `current_late_inert` (D21). The module
stops type-checking only when a fact cannot be read (`none`) or when one of the three facts the model hard-wires
(winner decided by a compare-and-swap, winner closes every channel, loser answered with `completeAction`) moved. -/
namespace Bpmn.Props.C06
open Bpmn.Model.EventGateway

/-- `inboxCap` is `len(incoming)*mul + add`; the `1` is the one incoming flow of a catch event behind the gateway -/
def factsOf : Option Nat → Option Bool → Option Nat → Option Nat → Option Nat → Option Cfg
  | some tc, some mr, some rc, some mul, some add =>
    some { k := 2, termCap := tc, mapReplaced := mr, replyCap := rc, inboxCap := mul * 1 + add }
  | _, _, _, _, _ => none

def current : Cfg :=
  (factsOf Bpmn.Gen.C06.ebgTermCap Bpmn.Gen.C06.ebgMapReplaced Bpmn.Gen.C06.catchReplyCap
    Bpmn.Gen.C06.catchInboxMul Bpmn.Gen.C06.catchInboxAdd).get (by decide)

/-- a catch node's inbox holds at least one message -/
theorem current_inbox : 1 ≤ current.inboxCap := by decide

/-- C06 on the current facts: holds, or is refuted by the witnesses of `C06_cex` -/
theorem current_verdict : if Ok current = true then C06_statement current else ¬ C06_statement current := by
  split
  · next h => exact C06_general _ current_inbox h
  · next h => exact C06_cex _ current_inbox (by simpa using h)

/-- exactly one winner: whatever the facts -/
theorem current_one_winner : ∀ k, OneWinner { current with k := k } := fun _ => ebg_one_winner _

/-- D5: the winner never blocks and every loser is withdrawn — or the explicit deadlock -/
theorem current_no_block :
    if 1 ≤ current.termCap ∧ current.mapReplaced = false then ∀ k, NoBlock { current with k := k }
    else ¬ NoBlock { current with k := 2 } := by
  split
  · next h => exact fun k => ebg_no_block _ h.1 h.2 current_inbox
  · next h =>
    apply noBlock_fails _ current_inbox
    by_cases h0 : current.termCap = 0
    · exact Or.inl h0
    · right
      cases hm : current.mapReplaced with
      | true => rfl
      | false => exact absurd ⟨by omega, hm⟩ h

/-- D21: late events are inert — or the stuck catch node -/
theorem current_late_inert :
    if 1 ≤ current.replyCap then ∀ k, LateInert { current with k := k } else ¬ LateInert { current with k := 2 } := by
  split
  · next h => exact fun k => ebg_late_events_inert _ h current_inbox
  · next h => exact lateInert_fails _ current_inbox (by omega)

/-- the model's `cas` step is a compare-and-swap, as in the transformer -/
theorem current_uses_cas : Bpmn.Gen.C06.ebgUsesCas = some true := by decide

/-- the model's winner closes every channel inside its loop, as the transformer does -/
theorem current_winner_closes : Bpmn.Gen.C06.ebgWinnerCloses = some true := by decide

/-- the model's CAS loser goes to `completed` (`completeAction{}`), as in the transformer -/
theorem current_loser_completes : Bpmn.Gen.C06.ebgLoserCompletes = some true := by decide

end Bpmn.Props.C06
