import Bpmn.Props.C15
import Bpmn.Gen.C15
/-! C15 instantiated at the schema table extracted from the current /repo tree. Every statement is
about `Bpmn.Gen.C15.schema`, which is REGENERATED on every run; the table checks are evaluated by
the kernel. -/
namespace Bpmn.Props.C15
open Bpmn.Model.Xml

abbrev T : Schema := Bpmn.Gen.C15.schema

/-- `rtTableB` is the hypothesis of the round-trip theorem; `wfB` and `prefixesDeclaredB` are the table-level conditions
stated with the model, recorded for the table (`current_wf`, `current_prefixes_declared`) and used by nothing below.
The three walk the same flattened field lists (`fieldsOf T i` for every struct `i`); evaluated as one conjunction, the
kernel computes each list once. -/
theorem current_checks : wfB T = true ∧ prefixesDeclaredB T = true ∧ rtTableB T = true := by
  decide +kernel

/-- no tag conflict in any struct, element and attribute tags pairwise distinguishable so the
decoder's dispatch is unambiguous, every element field tagged with a namespace, attributes
un-namespaced, one chardata field, all (un)marshalers of a recognised shape -/
theorem current_wf : WF T := current_checks.1

/-- every prefix written in front of an element name is declared on the root -/
theorem current_prefixes_declared : PrefixesDeclared T := current_checks.2.1

theorem current_rt_table : RtTable T := current_checks.2.2

/-- **Round trip at the current tree**: every well-typed definitions tree over the schema of the
current /repo, of any size and depth, with any trimming function, is returned by
`parse ∘ marshal` up to text trimming and the olive `Item` defaults. -/
theorem current_roundtrip (tr : String → String) (n : Node) (hwt : WellTyped T n) (hroot : n.ty = T.rootTy) :
    parse T (marshal T tr n) = some (normRoot T tr n) :=
  roundtrip_general T current_rt_table tr n hwt hroot

/-- the generated `FindBy` methods visit every embedded struct and every element field that can
hold an id-carrying element (`BaseElementInterface`) -/
theorem current_findBy_covers : findByCoversB T = true := by decide +kernel

/-- the attribute name and values `AnExpression.MarshalXML` writes are the ones `UnmarshalXML` tests -/
theorem current_type_attr_agrees : Bpmn.Gen.C15.typeAttrAgrees = some true := by decide

/-- a definitions with one process with one sequence flow whose condition is a FORMAL expression -/
def witness (formal : Bool) : Node :=
  mkNode T T.rootTy [] [(Bpmn.Gen.C15.goProcessField,
    [mkNode T Bpmn.Gen.C15.tyProcess [(Bpmn.Gen.C15.goIdField, "p")] [(Bpmn.Gen.C15.goSequenceFlowField,
      [mkNode T Bpmn.Gen.C15.tySequenceFlow [(Bpmn.Gen.C15.goIdField, "f")] [(Bpmn.Gen.C15.goConditionExpressionField,
        [mkNode T (if formal then T.formalTy else T.informalTy) [] [] "x > 1"])] ""])] ""])] ""

/-- Both witnesses are well typed and already in the normal form a round trip returns, so they
round-trip by `current_roundtrip`: only these two facts about the witnesses are evaluated, not the codec. -/
theorem witness_roundtrip (b : Bool) : parse T (marshal T id (witness b)) = some (witness b) := by
  have h : wellTypedB T (witness b) = true ∧ normRoot T id (witness b) = witness b := by
    revert b; decide +kernel
  rw [current_roundtrip id (witness b) h.1 rfl, h.2]

/-- **The dichotomy on the extracted fact `xsiDeclared`, at the current tree.** Either the prefix
of the type attribute is declared on the root and the witness (a formal condition) round-trips, or
it is not and the witness comes back with an INFORMAL condition (D11). The second side, when it is
the one that holds, is established by kernel evaluation of the model on the extracted table. -/
theorem current_xsi_dichotomy :
    (Bpmn.Gen.C15.xsiDeclared = some true ∧ XsiDeclared T ∧
      parse T (marshal T id (witness true)) = some (witness true)) ∨
    (Bpmn.Gen.C15.xsiDeclared = some false ∧ ¬ XsiDeclared T ∧
      parse T (marshal T id (witness true)) = some (witness false)) := by
  first
    | exact Or.inl ⟨by decide, by unfold XsiDeclared; decide +kernel, witness_roundtrip true⟩
    | exact Or.inr ⟨by decide, by unfold XsiDeclared; decide +kernel, by decide +kernel⟩

/-- the whole statement at the current tree -/
theorem current_C15 : C15_statement T := C15_holds T current_rt_table current_findBy_covers

/-- informal conditions round-trip on the current table -/
theorem current_informal_roundtrip :
    parse T (marshal T id (witness false)) = some (witness false) := witness_roundtrip false

/-- an `Assignment` whose `from` is a formal expression (a value-typed `AnExpression` field) -/
def witnessValue : Node :=
  mkNode T Bpmn.Gen.C15.tyAssignment [(Bpmn.Gen.C15.goIdField, "a")]
    [(Bpmn.Gen.C15.goFromField, [mkNode T T.formalTy [] [] "1+1"])] ""

/-- **Dichotomy on the value-typed expression fields, at the current tree**: either no element
field is encoded by the default rules (then the table says nothing is lost there), or some are and
the FORMAL `from` expression `1+1` of an assignment element does not survive
`marshalFields`/`parseKids`: what comes back for it is an informal expression with empty text. -/
theorem current_value_fields_dichotomy :
    valueExprFields T = [] ∨
    (valueExprFields T ≠ [] ∧
      (parseKids T T.rootDecls (elemFields T Bpmn.Gen.C15.tyAssignment)
        (marshalFields T id (elemFields T Bpmn.Gen.C15.tyAssignment) witnessValue.kids)).map
          (fun l => l.map (fun p => (p.2.ty, p.2.text))) = some [(T.informalTy, "")]) := by
  first
    | exact Or.inl (valueExprFields_nil T (by decide +kernel))
    | exact Or.inr ⟨by decide +kernel, by decide +kernel⟩

end Bpmn.Props.C15
