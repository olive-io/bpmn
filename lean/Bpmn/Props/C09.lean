import Bpmn.Lemmas.Tracer
import Bpmn.Lemmas.TracerProgress
import Bpmn.Lemmas.FlowOrder
import Bpmn.Spec.Causal
/-!
# C09 — the trace stream is one causally consistent total order, the same for all subscribers

Model: `Bpmn.Model.Tracer` — the broadcaster goroutine of pkg/tracing/tracer.go at channel-operation granularity
(unbuffered request channels, ordered subscriber list, bounded subscriber buffers, swap-removal, the draining
`Unsubscribe` loop), with an explicit scheduler: `run cfg init sched` for an ARBITRARY list `sched` of actions
(actions that are not enabled where they are scheduled are skipped). All theorems below quantify over every `sched`,
i.e. over every interleaving of any number of senders, subscribers, buffer sizes and consumer speeds, of any length.

`s.misuse = false` excludes exactly the runs in which `Unsubscribe` was called on a channel that is not subscribed
(see `unsubscribe_unsubscribed_spins`): the property speaks about subscribers.
-/
namespace Bpmn.Props.C09
open Bpmn.Model.Tracer

/-- `tracer_segment`. For every schedule and every channel that was ever appended to the subscriber list: what its
consumer received, then what its `Unsubscribe` loop drained, then what is still queued, is exactly the global send
order (`log`: the order in which the broadcaster took the traces) from the position at which the channel was appended
(`start`) up to `upto`: the position at which it was removed, or — while it is subscribed — the end of the log, minus
the one trace the range loop is still carrying towards it. Nothing dropped, nothing duplicated, nothing reordered;
the swap-removal of another channel never shows. -/
theorem tracer_segment (cfg : Cfg) (sched : List Act) (s : St) (hs : s = run cfg init sched) :
    s.misuse = false →
    ∀ c, (s.chan c).stat ≠ .absent → (s.chan c).stat ≠ .subWait →
      (s.chan c).recvd ++ (s.chan c).drained ++ (s.chan c).buf = (s.log.take (s.upto c)).drop (s.chan c).start := by
  subst hs
  exact fun hm c h1 h2 => (inv_run cfg sched hm).seg c (fresh_eq_false.mpr ⟨h1, h2⟩)

/-- the bounds of the segment: `start ≤ upto ≤ |log|` (a corollary of the invariant, not part of `C09_statement`) -/
theorem tracer_segment_bounds (cfg : Cfg) (sched : List Act) (s : St) (hs : s = run cfg init sched) :
    s.misuse = false →
    ∀ c, (s.chan c).stat ≠ .absent → (s.chan c).stat ≠ .subWait →
      (s.chan c).start ≤ s.upto c ∧ s.upto c ≤ s.log.length := by
  subst hs
  exact fun hm c h1 h2 => ⟨(inv_run cfg sched hm).startLe c (fresh_eq_false.mpr ⟨h1, h2⟩), (inv_run cfg sched hm).upto_le c⟩

/-- Same order for all: the k-th trace a subscriber received is the (start + k)-th trace of the global order. Two
subscribers therefore agree on every position both cover, and none of them sees a trace twice or skips one. -/
theorem tracer_same_order (cfg : Cfg) (sched : List Act) (s : St) (hs : s = run cfg init sched) :
    s.misuse = false →
    ∀ c k m, (s.chan c).recvd[k]? = some m → s.log[(s.chan c).start + k]? = some m := by
  subst hs
  intro hm c k m hk
  have hinv := inv_run cfg sched hm
  obtain ⟨hlt, _⟩ := List.getElem?_eq_some_iff.mp hk
  -- a fresh channel has received nothing
  have hf : ((run cfg init sched).chan c).stat.fresh = false := Bool.eq_false_iff.mpr fun hfr => by
    have := congrArg List.length (hinv.fresh c hfr)
    rw [Chan.total, List.length_append, List.length_append, List.length_nil] at this
    omega
  have h1 : ((run cfg init sched).chan c).total[k]? = some m := by
    rw [Chan.total, List.append_assoc, List.getElem?_append_left hlt]; exact hk
  rw [hinv.seg c hf, St.segment, List.getElem?_drop, List.getElem?_take] at h1
  split at h1
  · exact h1
  · cases h1

/-- Nothing is withheld: while the broadcaster is in its `select`, a subscribed channel holds (received, drained or
queued) every trace sent since its subscription (`tracer_segment` at `pc = idle`; not part of `C09_statement`). -/
theorem tracer_complete_when_idle (cfg : Cfg) (sched : List Act) (s : St) (hs : s = run cfg init sched) :
    s.misuse = false → s.pc = .idle →
    ∀ c, c ∈ s.subs →
      (s.chan c).recvd ++ (s.chan c).drained ++ (s.chan c).buf = s.log.drop (s.chan c).start := by
  intro hm hpc c hc
  have hinv : Inv s := by rw [hs] at hm ⊢; exact inv_run cfg sched hm
  obtain ⟨hf, hsn⟩ := hinv.of_mem hc
  have hseg := hinv.seg c hf
  unfold Chan.total St.segment at hseg
  rw [upto_idle (.inl hpc), hsn] at hseg
  simpa [List.take_length] using hseg

/-- The removal (`subscribers[pos] = subscribers[l]; subscribers = subscribers[:l]`) takes out exactly the
unsubscribing channel: every other channel keeps its place in the list exactly once and its contents untouched. -/
theorem tracer_removal_keeps_others (cfg : Cfg) (sched : List Act) (c : Nat) (s : St)
    (hs : s = run cfg init sched) :
    s.misuse = false → c ∈ s.subs →
    (s.removeSub c).subs.Nodup ∧ (∀ j, j ∈ (s.removeSub c).subs ↔ (j ∈ s.subs ∧ j ≠ c)) ∧
    ∀ j, j ≠ c → (s.removeSub c).chan j = s.chan j := by
  intro hm hc
  have hinv : Inv s := by rw [hs] at hm ⊢; exact inv_run cfg sched hm
  obtain ⟨h1, h2⟩ := swapRemove_spec hc hinv.nodup
  refine ⟨h1, h2, ?_⟩
  intro j hj
  simp [St.removeSub, hj]

/-- `tracer_sender_order`. For every schedule and every sender: the sequence numbers of that sender's traces, in the
order the broadcaster took them, are `0, 1, 2, …` — the global order restricted to one sender is that sender's
program order (a sender is a sequential goroutine: one `Send` at a time). -/
theorem tracer_sender_order (cfg : Cfg) (sched : List Act) (sd : Nat) (s : St) (hs : s = run cfg init sched) :
    ((s.log.filter (fun m => m.sender == sd)).map (·.seq)) =
      List.range ((s.log.filter (fun m => m.sender == sd)).length) := by
  subst hs
  have h := (sinv_run cfg sched).order sd
  have := prefix_of_range h
  simpa [seqsOf] using this

/-- `tracer_unsub_progress`. Take any reachable state and let only goroutines that are already inside the protocol
move (the broadcaster, clients finishing their `Send` / `SubscribeChannel` / `Unsubscribe`, consumers of subscribed
channels taking traces, the `Unsubscribe` loop draining its own channel) — no new call is begun. Then
(a) however these steps are scheduled, at most `mu s` of them can happen (`mu` is computed from the state: blocked
    sends × subscribers, remaining pushes, queued traces, open hand-shakes);
(b) as long as some call has not returned (`Busy`), one of them is enabled: no deadlock. The unsubscriber's own drain
    is what unblocks a broadcaster that is pushing to the very channel being unsubscribed — its consumer is not needed;
so every maximal such run ends, within `mu s` steps, in a state where every `Send`, `SubscribeChannel` and
`Unsubscribe` has returned; (c) one such run is exhibited. What the other subscribers hold is given by
`tracer_segment` in every state on the way. -/
theorem tracer_unsub_progress (cfg : Cfg) (hdr : cfg.unsubDrains = true) (sched : List Act) (s : St)
    (hs : s = run cfg init sched) :
    s.misuse = false →
    (∀ acts, (∀ a ∈ acts, a.isEnv = false) → allEnabled cfg s acts →
        acts.length ≤ s.mu ∧
        ((run cfg s acts).Busy → ∃ a, a.isEnv = false ∧ (step cfg (run cfg s acts) a).isSome = true)) ∧
    (∃ acts, (∀ a ∈ acts, a.isEnv = false) ∧ allEnabled cfg s acts ∧ acts.length ≤ s.mu ∧ ¬ (run cfg s acts).Busy) := by
  intro hm
  have hinv : Inv s := by rw [hs] at hm ⊢; exact inv_run cfg sched hm
  constructor
  · intro acts hsys hen
    obtain ⟨h1, _, h3⟩ := inv_allEnabled acts s hinv hm hsys hen
    exact ⟨by omega, fun hb => no_deadlock hdr h1 hb⟩
  · obtain ⟨acts, h1, h2, h3⟩ := completes hdr s.mu s (Nat.le_refl _) hinv hm
    obtain ⟨_, _, h6⟩ := inv_allEnabled acts s hinv hm h1 h2
    exact ⟨acts, h1, h2, by omega, h3⟩

/-- Without the drain a broadcaster that is pushing to a full channel whose owner is in `Unsubscribe` stays there, as long
as no subscriber is still reading or still returning from `SubscribeChannel`: no goroutine inside the protocol can move. -/
theorem nodrain_stuck {cfg : Cfg} (hdr : cfg.unsubDrains = false) {s : St} {x : Msg} {i d : Nat}
    (hpc : s.pc = .push x i) (hd : s.subs[i]? = some d) (hfull : (s.chan d).cap ≤ (s.chan d).buf.length)
    (hq : ∀ c, (s.chan c).stat ≠ .active ∧ (s.chan c).stat ≠ .subAcked) (a : Act) (ha : a.isEnv = false) :
    step cfg s a = none := by
  refine Option.eq_none_iff_forall_ne_some.mpr fun s' e => ?_
  cases step_iff.mp e
  case callSub | callUnsub | misuse | callSend => cases ha
  case recvTrace h _ | recvSub h _ | recvUnsub h _ _ | recvUnsubMiss h _ _ | takeOk h _ => rw [hpc] at h; cases h
  case push h1 h2 h3 => rw [hpc] at h1; cases h1; rw [hd] at h2; cases h2; omega
  case consume c _ _ h _ | consumeDirect c _ _ h _ _ _ => exact (hq c).1 h
  case drain h _ _ | drainDirect h _ _ _ _ => rw [hdr] at h; cases h
  case subReturn c h => exact (hq c).2 h

/-- the schedule: one subscriber (unbuffered channel) subscribes; a sender's trace is taken by the broadcaster, which
now blocks in `subscriber <- trace`; the subscriber stops reading and calls `Unsubscribe` -/
def nodrainSched : List Act :=
  [.callSub 0, .recvSub 0, .subReturn 0, .callSend 0, .recvTrace 0, .callUnsub 0]

/-- Without the `case <-channel` alternative in the `Unsubscribe` loop the same situation is a deadlock: the
broadcaster waits for the subscriber to read, the subscriber waits for the broadcaster to take its request, and no
goroutine inside the protocol can move — the `Send` has returned but the `Unsubscribe` never does. -/
theorem tracer_nodrain_deadlock :
    let cfg : Cfg := { unsubDrains := false }
    let s := run cfg init nodrainSched
    s.misuse = false ∧ s.Busy ∧ ∀ a, a.isEnv = false → step cfg s a = none := by
  dsimp only
  refine ⟨rfl, Or.inr (Or.inl (by decide)), nodrain_stuck rfl (x := ⟨0, 0⟩) (i := 0) (d := 0) rfl rfl (Nat.le_refl _) ?_⟩
  intro c
  by_cases hc : c = 0
  · subst hc; exact ⟨by decide, by decide⟩
  · have : (run { unsubDrains := false } init nodrainSched).chan c = {} := by
      show (if c = 0 then _ else if c = 0 then _ else if c = 0 then _ else if c = 0 then _ else _) = _
      simp [hc, init]
    rw [this]; exact ⟨by decide, by decide⟩

/-- with the drain the same schedule continues: `Unsubscribe` drains the trace, is removed, acknowledged, returns -/
example :
    let cfg : Cfg := {}
    let s := run cfg init (nodrainSched ++ [.drain 0, .recvUnsub 0, .takeOk 0])
    s.pc = .idle ∧ (s.chan 0).stat = .done ∧ (s.chan 0).drained = [⟨0, 0⟩] ∧ s.subs = [] := by
  exact ⟨rfl, rfl, rfl, rfl⟩

theorem recvUnsub_unlisted {cfg : Cfg} {s : St} {c : Nat} (hpc : s.pc = .idle) (hst : (s.chan c).stat = .unsubOffer)
    (hc : c ∉ s.subs) : step' cfg s (.recvUnsub c) = s := by
  unfold step'; rw [step_iff.mpr (.recvUnsubMiss hpc hst hc)]; rfl

theorem run_replicate_fixed {cfg : Cfg} {s : St} {a : Act} (h : step' cfg s a = s) (n : Nat) :
    run cfg s (List.replicate n a) = s := by
  induction n with
  | zero => rfl
  | succ n ih => rw [List.replicate_succ]; show run cfg (step' cfg s a) _ = s; rw [h, ih]

/-- one subscriber subscribes, unsubscribes, and calls `Unsubscribe` a second time; then the broadcaster takes the
request `n` times -/
def spinSched (n : Nat) : List Act :=
  [.callSub 1, .recvSub 0, .subReturn 0, .callUnsub 0, .recvUnsub 0, .takeOk 0, .callUnsub 0] ++
    List.replicate n (.recvUnsub 0)

/-- Outside the statement (DESIGN.md §8 C09): `Unsubscribe` of a channel that is not subscribed never returns.
The broadcaster finds `pos = -1`, sends no acknowledgement, and the loop offers the request again — for every `n`,
after the broadcaster has taken the request `n` times the call is still where it was. -/
theorem unsubscribe_unsubscribed_spins (cfg : Cfg) (n : Nat) :
    let s := run cfg init (spinSched n)
    (s.chan 0).stat = .unsubOffer ∧ s.pc = .idle ∧ s.misuse = true := by
  intro s
  -- the state before the broadcaster's first look at the request does not depend on `cfg`, and that look leaves it as it is
  have hfix : step' cfg (run {} init (spinSched 0)) (.recvUnsub 0) = run {} init (spinSched 0) :=
    recvUnsub_unlisted rfl rfl List.not_mem_nil
  have e : s = run {} init (spinSched 0) := by
    show run cfg init (_ ++ _) = _
    rw [run_append, run_cfg cfg {} (by simp) init]
    exact run_replicate_fixed hfix n
  rw [e]; exact ⟨rfl, rfl, rfl⟩

/-! ## non-vacuity: a concrete run with two subscribers, a swap-removal in the middle, and three senders' traces -/

def demoSched : List Act :=
  [ .callSub 1, .recvSub 0, .subReturn 0,            -- channel 0, buffer 1
    .callSend 7, .recvTrace 0, .push,                 -- 7:0 → [0]
    .callSub 0, .recvSub 1, .subReturn 1,             -- channel 1, unbuffered, joins after 7:0
    .callSub 2, .recvSub 2, .subReturn 2,             -- channel 2, buffer 2
    .callSend 8, .callSend 7, .recvTrace 1,           -- 7:1 overtakes 8:0
    .consume 0, .push, .consume 1, .push,             -- 7:1 → 0, 1 (rendezvous), 2
    .callUnsub 0, .recvUnsub 0, .takeOk 0,            -- channel 0 leaves: the list [0,1,2] becomes [2,1]
    .recvTrace 0, .push, .consume 1 ]                 -- 8:0 → 2, then 1

example :
    let s := run {} init demoSched
    s.misuse = false ∧ s.subs = [2, 1] ∧ s.log = [⟨7, 0⟩, ⟨7, 1⟩, ⟨8, 0⟩] ∧
    (s.chan 0).recvd = [⟨7, 0⟩] ∧ (s.chan 0).drained = [] ∧ (s.chan 0).buf = [⟨7, 1⟩] ∧
    (s.chan 0).start = 0 ∧ s.upto 0 = 2 ∧
    (s.chan 1).recvd = [⟨7, 1⟩, ⟨8, 0⟩] ∧ (s.chan 1).start = 1 ∧ s.upto 1 = 3 ∧
    (s.chan 2).buf = [⟨7, 1⟩, ⟨8, 0⟩] ∧ (s.chan 2).start = 1 := by
  refine ⟨rfl, rfl, rfl, rfl, rfl, rfl, rfl, rfl, rfl, rfl, rfl, rfl, rfl⟩

/-- the hypotheses of `tracer_unsub_progress` are met by a state with calls in flight
(`mu` = 1 blocked `Send` · (1 + 2 · 1 subscriber) + 2 · 1 remaining push + weight 2 of `unsubOffer`) -/
example :
    let s := run {} init [.callSub 0, .recvSub 0, .subReturn 0, .callSend 0, .recvTrace 0, .callUnsub 0, .callSend 1]
    s.misuse = false ∧ s.Busy ∧ s.mu = 7 := by
  refine ⟨rfl, Or.inl (by decide), rfl⟩

/-! ## the drain is what the progress theorem hangs on: a dichotomy over the extracted fact -/

/-- what is claimed at a given value of the fact "the `Unsubscribe` loop drains its own channel" -/
def ProgressClaim (drains : Bool) : Prop :=
  if drains then
    ∀ (cfg : Cfg), cfg.unsubDrains = true → ∀ (sched : List Act) (s : St), s = run cfg init sched → s.misuse = false →
      (∀ acts, (∀ a ∈ acts, a.isEnv = false) → allEnabled cfg s acts →
          acts.length ≤ s.mu ∧
          ((run cfg s acts).Busy → ∃ a, a.isEnv = false ∧ (step cfg (run cfg s acts) a).isSome = true)) ∧
      (∃ acts, (∀ a ∈ acts, a.isEnv = false) ∧ allEnabled cfg s acts ∧ acts.length ≤ s.mu ∧ ¬ (run cfg s acts).Busy)
  else
    ∃ sched, (run { unsubDrains := false } init sched).misuse = false ∧ (run { unsubDrains := false } init sched).Busy ∧
      ∀ a, a.isEnv = false → step { unsubDrains := false } (run { unsubDrains := false } init sched) a = none

theorem progress_dichotomy (drains : Bool) : ProgressClaim drains := by
  cases drains with
  | true =>
    intro cfg hdr sched s hs hm
    exact tracer_unsub_progress cfg hdr sched s hs hm
  | false => exact ⟨nodrainSched, tracer_nodrain_deadlock⟩

/-! ## a relay (`NewRelay`, `subProcess.run`) is a subscriber: it forwards what it was subscribed for

By `tracer_segment` a subscriber holds `log[start, upto)`: what it misses is exactly `log.take start`, the traces the
broadcaster took before it appended the channel. A relay therefore forwards the whole inner stream iff it is
subscribed before the first inner `Send` begins. -/

/-- a subscriber that is in the list before any `Send` has begun holds the whole stream, whatever happens later -/
theorem relay_lossless_if_subscribed_first (cfg : Cfg) (pre post : List Act) (c : Nat)
    (hpre : ∀ a ∈ pre, a.isSend = false) (s : St) (hs : s = run cfg init (pre ++ post))
    (hm : s.misuse = false)
    (hc : ((run cfg init pre).chan c).stat ≠ .absent ∧ ((run cfg init pre).chan c).stat ≠ .subWait) :
    (s.chan c).start = 0 ∧
    (s.chan c).recvd ++ (s.chan c).drained ++ (s.chan c).buf = s.log.take (s.upto c) := by
  rw [run_append] at hs
  subst hs
  have hf0 := fresh_eq_false.mpr hc
  -- misuse is never undone, so the run up to `pre` is free of it as well
  have hm0 : (run cfg init pre).misuse = false := by
    cases hb : (run cfg init pre).misuse with
    | false => rfl
    | true => rw [run_misuse hb] at hm; cases hm
  have hinv0 := inv_run cfg pre hm0
  -- nothing was sent during `pre`: the segment of `c` starts at 0
  have hz0 : ((run cfg init pre).chan c).start = 0 := by
    have := Nat.le_trans (hinv0.startLe c hf0) (hinv0.upto_le c)
    rw [run_nosend cfg pre hpre] at this
    exact Nat.le_zero.mp this
  obtain ⟨hinv, hz, hf⟩ := start_run hinv0 hf0 post hm
  rw [hz0] at hz
  refine ⟨hz, ?_⟩
  have hseg := hinv.seg c hf
  unfold Chan.total St.segment at hseg
  rw [hz] at hseg
  simpa using hseg

/-- the inner flow sends `NewFlowTrace`, `VisitTrace` (7:0, 7:1); only then is the relay's subscription accepted; a third
trace follows -/
def lateRelaySched : List Act :=
  [ .callSend 7, .recvTrace 0, .callSend 7, .recvTrace 0,
    .callSub 10, .recvSub 0, .subReturn 0,
    .callSend 7, .recvTrace 0, .push, .consume 0 ]

/-- subscribed after the first sends (`sp.startAll(ctx)` before `sp.subTracer.Subscribe()` in subprocess.go `run`, the
order as first extracted; `C09Current.current_relay` says which order /repo has), the relay never sees them: its segment
starts at position 2 -/
theorem relay_late_subscription_loses_prefix :
    let s := run {} init lateRelaySched
    s.misuse = false ∧ (s.chan 0).stat = .active ∧ s.log = [⟨7, 0⟩, ⟨7, 1⟩, ⟨7, 2⟩] ∧
    (s.chan 0).start = 2 ∧ (s.chan 0).recvd = [⟨7, 2⟩] ∧ (s.chan 0).buf = [] ∧ s.pc = .idle := by
  refine ⟨rfl, rfl, rfl, rfl, rfl, rfl, rfl⟩

/-! ### two relays on one inner tracer (D43)

A relay is a subscriber like any other: TWO relays subscribed to the same inner tracer before its first `Send` each hold the
whole inner stream, so everything is forwarded to the enclosing tracer twice. That is what two tokens inside one
sub-process node did before activations took turns (`sp.activation`, 69bc080): the second token's relay repeated the
running activation's traces on the instance's tracer. -/

/-- both subscribers hold the whole stream (twice `relay_lossless_if_subscribed_first`) -/
theorem two_relays_each_hold_everything (cfg : Cfg) (pre post : List Act) (c1 c2 : Nat)
    (hpre : ∀ a ∈ pre, a.isSend = false) (s : St) (hs : s = run cfg init (pre ++ post)) (hm : s.misuse = false)
    (h1 : ((run cfg init pre).chan c1).stat ≠ .absent ∧ ((run cfg init pre).chan c1).stat ≠ .subWait)
    (h2 : ((run cfg init pre).chan c2).stat ≠ .absent ∧ ((run cfg init pre).chan c2).stat ≠ .subWait) :
    (s.chan c1).recvd ++ (s.chan c1).drained ++ (s.chan c1).buf = s.log.take (s.upto c1) ∧
    (s.chan c2).recvd ++ (s.chan c2).drained ++ (s.chan c2).buf = s.log.take (s.upto c2) :=
  ⟨(relay_lossless_if_subscribed_first cfg pre post c1 hpre s hs hm h1).2,
   (relay_lossless_if_subscribed_first cfg pre post c2 hpre s hs hm h2).2⟩

/-- two relays subscribe, the inner flow sends one trace, both receive it -/
def twoRelaySched : List Act :=
  [ .callSub 10, .recvSub 0, .subReturn 0, .callSub 10, .recvSub 1, .subReturn 1,
    .callSend 7, .recvTrace 0, .push, .push, .consume 0, .consume 1 ]

/-- … the witness: one trace sent, two copies forwarded -/
theorem two_relays_forward_twice :
    let s := run {} init twoRelaySched
    s.misuse = false ∧ s.log = [⟨7, 0⟩] ∧ (s.chan 0).recvd ++ (s.chan 1).recvd = [⟨7, 0⟩, ⟨7, 0⟩] ∧ s.pc = .idle := by
  refine ⟨rfl, rfl, rfl, rfl⟩

/-- what is claimed at a given value of the fact "subProcess.run subscribes to the inner tracer before it starts the
inner flows" -/
def RelayClaim (subscribesFirst : Bool) : Prop :=
  if subscribesFirst then
    ∀ (cfg : Cfg) (pre post : List Act) (c : Nat), (∀ a ∈ pre, a.isSend = false) →
      ∀ s, s = run cfg init (pre ++ post) → s.misuse = false →
      (((run cfg init pre).chan c).stat ≠ .absent ∧ ((run cfg init pre).chan c).stat ≠ .subWait) →
      (s.chan c).start = 0 ∧ (s.chan c).recvd ++ (s.chan c).drained ++ (s.chan c).buf = s.log.take (s.upto c)
  else
    ∃ sched c, (run {} init sched).misuse = false ∧ ((run {} init sched).chan c).stat = .active ∧
      (run {} init sched).pc = .idle ∧ 0 < ((run {} init sched).chan c).start

theorem relay_dichotomy (b : Bool) : RelayClaim b := by
  cases b with
  | true =>
    intro cfg pre post c hpre s hs hm hc
    exact relay_lossless_if_subscribed_first cfg pre post c hpre s hs hm hc
  | false => exact ⟨lateRelaySched, 0, rfl, rfl, rfl, by decide⟩

open Bpmn.Model.FlowOrder Bpmn.Spec in
/-- `flows_causal`. Over one tracer (total order, program order, a `Send` returns only once the trace is in the order),
the sending discipline of flow.go — `NewFlowTrace`, `VisitTrace`; per move `LeaveTrace`, `VisitTrace`, then the
`FlowTrace` listing the continuing flow and the fresh ids of the additional flows, and only THEN their goroutines;
`TerminationTrace` immediately before returning; `CeaseFlowTrace` after every flow goroutine has returned — yields,
for every number of flows, every branching and every interleaving (`sched` arbitrary), a history that satisfies the
grammar: the announcement precedes every trace of an announced flow, visit precedes leave per node occurrence, nothing
of a flow follows its termination, nothing of any flow follows the cease trace. -/
theorem flows_causal (sched : List FAct) : causal (frun finit sched).log = true := by
  obtain ⟨sc, h, _⟩ := good_run sched finit good_init
  simp [causal, firstViolation, h]

open Bpmn.Model.FlowOrder Bpmn.Spec in
/-- non-vacuity: a fork. Flow 0 starts at node 10, moves to node 11 announcing flows 1 and 2 (started at nodes 12 and
13), which run concurrently with it; flow 1 terminates; the history is the expected one -/
example :
    (frun finit [.root 10, .send 0, .send 0, .move 0 11 [12, 13], .send 0, .send 0,
                 .send 2, .send 1, .send 1, .send 2, .term 1, .other]).log =
    [.newflow 0, .visit 10, .leave 10, .visit 11, .flow 10 [0, 1, 2],
     .newflow 2, .newflow 1, .visit 12, .visit 13, .term 1, .other] := rfl

open Bpmn.Spec in
/-- the predicate is not trivially true: each rule rejects a history -/
example :
    causal [.newflow 0, .visit 1, .newflow 5, .leave 1, .visit 2, .flow 1 [0, 5]] = false ∧   -- flow 5 seen before its announcement
    causal [.newflow 0, .leave 1] = false ∧                                                    -- leave before visit
    causal [.newflow 0, .visit 1, .term 0, .flow 1 [0]] = false ∧                              -- trace after termination
    causal [.newflow 0, .visit 1, .term 0, .cease, .visit 1] = false ∧                         -- flow trace after cease
    causal [.visit 1, .flow 1 [3]] = false ∧                                                   -- FlowTrace before NewFlowTrace
    causal [.newflow 0, .visit 1, .leave 1, .visit 2, .flow 1 [0, 5], .newflow 5, .visit 3, .term 5, .term 0, .cease, .other] = true := by
  decide

/-- C09 on the model, in full. (`ProgressClaim true` is the no-deadlock part at the value of the drain fact the code
has; `relay_dichotomy` and `progress_dichotomy` carry the other values.) -/
def C09_statement : Prop :=
  -- every subscriber: a contiguous segment of the one global order, for all schedules
  (∀ (cfg : Cfg) (sched : List Act) (s : St), s = run cfg init sched → s.misuse = false →
    ∀ c, (s.chan c).stat ≠ .absent → (s.chan c).stat ≠ .subWait →
      (s.chan c).recvd ++ (s.chan c).drained ++ (s.chan c).buf = (s.log.take (s.upto c)).drop (s.chan c).start) ∧
  -- same order for all, nothing dropped or duplicated
  (∀ (cfg : Cfg) (sched : List Act) (s : St), s = run cfg init sched → s.misuse = false →
    ∀ c k m, (s.chan c).recvd[k]? = some m → s.log[(s.chan c).start + k]? = some m) ∧
  -- the global order extends every sender's program order
  (∀ (cfg : Cfg) (sched : List Act) (sd : Nat) (s : St), s = run cfg init sched →
    ((s.log.filter (fun m => m.sender == sd)).map (·.seq)) =
      List.range ((s.log.filter (fun m => m.sender == sd)).length)) ∧
  -- concurrent Subscribe / Unsubscribe / Send: bounded progress, no deadlock
  ProgressClaim true ∧
  -- removal leaves the other subscribers alone
  (∀ (cfg : Cfg) (sched : List Act) (c : Nat) (s : St), s = run cfg init sched → s.misuse = false → c ∈ s.subs →
    (s.removeSub c).subs.Nodup ∧ (∀ j, j ∈ (s.removeSub c).subs ↔ (j ∈ s.subs ∧ j ≠ c)) ∧
    ∀ j, j ≠ c → (s.removeSub c).chan j = s.chan j) ∧
  -- the causality grammar, for every interleaving of flows that send as flow.go does
  (∀ sched : List Bpmn.Model.FlowOrder.FAct,
    Bpmn.Spec.causal (Bpmn.Model.FlowOrder.frun Bpmn.Model.FlowOrder.finit sched).log = true)

theorem C09_holds : C09_statement :=
  ⟨tracer_segment, tracer_same_order, tracer_sender_order, progress_dichotomy true,
   tracer_removal_keeps_others, flows_causal⟩

end Bpmn.Props.C09
