import Bpmn.Lemmas.EventGateway
/-!
# C06 — Event-based gateway: exactly one alternative wins and the instance completes

Theorems over the small-step model `Bpmn.Model.EventGateway` (a port of `gateway_event_based.go`, the `select` loop
of `flow.Start` and `event_catch.go`), for every number of alternatives, every sequence of deliveries — sequential
or overlapping — and every schedule (`exec` runs ANY list of labels, skipping the ones that are not enabled).

For every value of the facts at most one alternative passes the compare-and-swap (`ebg_one_winner`) and progress is
bounded (`ebg_bounded`: a measure that starts at `9k+1` and grows by `3k` per delivery). Under `1 ≤ ebgTermCap` and the map
variable not reassigned the winner never blocks and quiescence after an observed event means that exactly one branch has
continued (`ebg_no_block`); under `1 ≤ catchReplyCap` late deliveries block no node and no caller
(`ebg_late_events_inert`). With `ebgTermCap = 0` (as first extracted, before the repair a032601) the schedule
`deadlockSched` hangs the instance (D5, `C06_counterexample_deadlock`); with `catchReplyCap = 0` (before the repair
c316620) the withdrawn alternative's node sends forever on a dead reply channel, its inbox fills, the caller blocks (D21,
`C06_counterexample_late_event_blocks`). `C06_general`: `Ok facts → statement`; `C06_cex`: `¬ Ok facts → ¬ statement`.
-/
namespace Bpmn.Props.C06
open Bpmn.Model.EventGateway

theorem final_step (c : Cfg) (s : St) (l : Lbl) (i : Nat) (h : s.pc i = .continued ∨ (s.pc i).gone = true)
    (he : enabled c s l = true) : (fire c s l).pc i = s.pc i := by
  rcases fire_flows c s l he with ⟨e, _, _⟩ | ⟨j, p, v, _, hp, hj, _, e, _⟩ <;> rw [e]
  exact upd_other _ _ _ _ (fun e' => hj (hp ▸ e' ▸ rank_of_final h))

theorem final_absorbing (c : Cfg) (s : St) (i : Nat) (h : s.pc i = .continued ∨ (s.pc i).gone = true)
    (sch : List Lbl) : (exec c s sch).pc i = s.pc i :=
  exec_induct c (fun s' => s'.pc i = s.pc i)
    (fun s' l hs he => by rw [← hs]; exact final_step c s' l i (by rw [hs]; exact h) he) sch s rfl

theorem notify_enabled (c : Cfg) (s : St) (h : InvA c s) (hcap : 1 ≤ c.termCap) (i t : Nat)
    (hp : s.pc i = .notifying) (ht : s.target = some t) (hne : t ≠ i) : enabled c s (.notify i t) = true := by
  obtain ⟨htk, hcl, _⟩ := h.tgt t ht
  have hik : i < c.k := h.won_lt (by rw [hp]; rfl)
  have h0 : c.termCap ≠ 0 := by omega
  simp [enabled, hik, htk, hne, hp, ht, h0, h.buf0 t hcl]
  omega

theorem winner_step_enabled (c : Cfg) (s : St) (h : InvA c s) (hcap : 1 ≤ c.termCap) (i : Nat)
    (hp : s.pc i = .notifying) :
    (∃ t, enabled c s (.pick i t) = true) ∨ (∃ t, enabled c s (.notify i t) = true) ∨
      enabled c s (.closeOwn i) = true ∨ enabled c s (.finish i) = true := by
  have hik : i < c.k := h.won_lt (by rw [hp]; rfl)
  cases ht : s.target with
  | some t =>
    by_cases hti : t = i
    · exact .inr (.inr (.inl (by simp [enabled, hik, hp, ht, hti])))
    · exact .inr (.inl ⟨t, notify_enabled c s h hcap i t hp ht hti⟩)
  | none =>
    by_cases hall : allClosed c s = true
    · exact .inr (.inr (.inr (by simp [enabled, hik, hp, ht, hall])))
    · obtain ⟨t, htk, hc⟩ : ∃ t, t < c.k ∧ s.closed t = false := by simpa [allClosed] using hall
      exact .inl ⟨t, by simp [enabled, hik, htk, hp, ht, hc]⟩

theorem terminal_settled (c : Cfg) (s : St) (h : Inv c s) (hcap : 1 ≤ c.termCap) (hmap : c.mapReplaced = false)
    (hib : 1 ≤ c.inboxCap) (hterm : terminal c s) (hobs : ∃ i, i < c.k ∧ (s.pc i).observed = true) :
    settled c s := by
  have ha := h.a
  -- nobody is between its event and the end of the winner's loop: such a flow could step
  have hnoGot : ∀ i, i < c.k → s.pc i ≠ .gotAction := fun i hi hp => by
    have := hterm (.enterTransformer i) rfl
    simp [enabled, hi, hp] at this
  have hnoTr : ∀ i, i < c.k → s.pc i ≠ .inTransformer := fun i hi hp => by
    have := hterm (.cas i) rfl
    simp [enabled, hi, hp] at this
  have hnoNot : ∀ i, s.pc i ≠ .notifying := fun i hp => by
    rcases winner_step_enabled c s ha hcap i hp with ⟨t, e⟩ | ⟨t, e⟩ | e | e <;> rw [hterm _ rfl] at e <;> cases e
  -- so the flag is set and its owner has continued
  obtain ⟨i0, hi0, ho⟩ := hobs
  have hfirst : s.first ≠ none := by
    cases hp : s.pc i0 <;> rw [hp] at ho <;> simp [Pc.observed] at ho
    · exact absurd hp (hnoGot i0 hi0)
    · exact absurd hp (hnoTr i0 hi0)
    · exact absurd hp (hnoNot i0)
    · rw [ha.won_first i0 (by rw [hp]; rfl)]; nofun
    · exact ha.compl i0 hp
  obtain ⟨w, hw⟩ := Option.ne_none_iff_exists'.mp hfirst
  have hwon := ha.first_w w hw
  have hwc : s.pc w = .continued := by
    cases hp : s.pc w <;> rw [hp] at hwon <;> simp [Pc.won] at hwon
    exact absurd hp (hnoNot w)
  have hwk : w < c.k := ha.won_lt hwon
  have hgone : ∀ j, j < c.k → j ≠ w → (s.pc j).gone = true := by
    intro j hj hne
    cases hp : s.pc j with
    | starting =>
      -- it can register, or its node can take a message
      obtain ⟨_, hidle, _, _⟩ := (h.n j).start hp
      have e1 := hterm (.enterSelect j) rfl
      have e2 := hterm (.node j) rfl
      simp only [enabled, hj, hp, hidle, decide_true, Bool.true_and, decide_eq_false_iff_not, Nat.not_lt,
        Bool.not_eq_false', List.isEmpty_iff] at e1 e2
      rw [e2] at e1
      exact absurd hib (Nat.not_le_of_gt (Nat.lt_of_le_of_lt e1 Nat.zero_lt_one))
    | selecting =>
      -- the winner has left `true` in its channel
      have hb := ha.bufpos hcap j (ha.cont_closed w hwc j hj) (Or.inr hp)
      have hnil : s.nilChan j = false :=
        Bool.eq_false_iff.mpr fun hn => absurd (ha.nilc j hn) (by rw [hmap]; nofun)
      have e := hterm (.recvTerm j) rfl
      simp [enabled, hj, hp, hnil] at e
      omega
    | gotAction => exact absurd hp (hnoGot j hj)
    | inTransformer => exact absurd hp (hnoTr j hj)
    | notifying => exact absurd hp (hnoNot j)
    | continued => exact absurd (Option.some.inj ((ha.won_first j (by rw [hp]; rfl)).symm.trans hw)) hne
    | terminated => rfl
    | completed => rfl
  refine ⟨w, hwk, hwc, hgone, ?_⟩
  rw [h.w, liveCount_eq_sumTo, sumTo_single _ hwk (fun j hj hne => by rw [hgone j hj hne]; rfl), hwc]
  rfl

theorem settled_of (c : Cfg) (hk : c.k = 2) (s : St) (h0 : s.pc 0 = .continued) (h1 : s.pc 1 = .terminated)
    (hw : s.wg = 1) : settled c s :=
  ⟨0, by omega, h0, hk ▸ forall_lt_two (fun e => absurd rfl e) (fun _ => by rw [h1]; rfl), hw⟩

/-- every flow is final (not: no label enabled, which is `terminal`) -/
def quiet (c : Cfg) (s : St) : Prop := ∀ i, i < c.k → s.pc i = .continued ∨ (s.pc i).gone = true

theorem settled_quiet (c : Cfg) (s : St) (h : settled c s) : quiet c s := by
  obtain ⟨w, _, hw, hg, _⟩ := h
  intro i hi
  by_cases e : i = w
  · exact Or.inl (e ▸ hw)
  · exact Or.inr (hg i hi e)

/-- late deliveries change no token: whatever is delivered and however it is scheduled after the gateway has
settled, every flow stays where it is (for every value of the facts) -/
theorem late_events_no_token_change (c : Cfg) (s : St) (hq : quiet c s) (sch : List Lbl) :
    (exec c s sch).pc = s.pc ∧ (exec c s sch).first = s.first ∧ (exec c s sch).wg = s.wg :=
  exec_induct c (fun s' => s'.pc = s.pc ∧ s'.first = s.first ∧ s'.wg = s.wg)
    (fun s' l hs he => by
      -- a step leaves flows, flag and wait group alone or moves a flow that is not final
      rcases fire_flows c s' l he with ⟨a, b, d⟩ | ⟨j, _, _, hjk, hp, hj, _⟩
      · exact ⟨a.trans hs.1, b.trans hs.2.1, d.trans hs.2.2⟩
      · exact absurd (rank_of_final (hp ▸ hs.1 ▸ hq j hjk)) hj) sch s ⟨rfl, rfl, rfl⟩

theorem send_enabled (c : Cfg) (s : St) (h : InvN c s) (hcap : 1 ≤ c.replyCap) (j : Nat)
    (hs : s.npc j = .sending) : enabled c s (.send j) = true := by
  have hj := (h j).lt_k (Or.inl hs)
  have hb := ((h j).active_reg ((h j).send_active hs)).2
  have h0 : c.replyCap ≠ 0 := by omega
  simp [enabled, hj, hs, h0, hb]
  omega

theorem terminal_no_delivery_blocked (c : Cfg) (s : St) (h : Inv c s) (hcap : 1 ≤ c.replyCap)
    (hib : 1 ≤ c.inboxCap) (hterm : terminal c s) : s.dels = [] := by
  cases hd : s.dels with
  | nil => rfl
  | cons d ds =>
    exfalso
    have hdk : d.2 < c.k := h.d d (by rw [hd]; exact List.mem_cons_self)
    -- the first delivery waits on a full, hence non-empty, inbox; its node could take a message or finish its send
    have e := hterm (.forward 0) rfl
    simp only [enabled, delAt, hd, List.length_cons, Nat.zero_lt_succ, decide_true, List.getElem?_cons_zero,
      Option.getD_some, hdk, Bool.true_and, decide_eq_false_iff_not, Nat.not_lt] at e
    cases hn : s.npc d.2 with
    | idle =>
      have e2 := hterm (.node d.2) rfl
      simp only [enabled, hdk, hn, decide_true, Bool.true_and, Bool.not_eq_false', List.isEmpty_iff] at e2
      rw [e2] at e
      exact absurd hib (Nat.not_le_of_gt (Nat.lt_of_le_of_lt e Nat.zero_lt_one))
    | sending =>
      have e2 := hterm (.send d.2) rfl
      rw [send_enabled c s h.n hcap d.2 hn] at e2
      cases e2

/-- every internal step of a reachable state decreases the measure -/
theorem ebg_bounded (c : Cfg) (sch : List Lbl) (l : Lbl) (hl : l.isInput = false)
    (he : enabled c (exec c (init c) sch) l = true) :
    mu c (fire c (exec c (init c) sch) l) < mu c (exec c (init c) sch) :=
  mu_decreases c _ l (inv_reach c sch).a hl he

/-- number of internal steps a schedule actually performs -/
def effSteps (c : Cfg) : St → List Lbl → Nat
  | _, [] => 0
  | s, l :: ls =>
    if enabled c s l = true then (if l.isInput = true then 0 else 1) + effSteps c (fire c s l) ls
    else effSteps c s ls

def inputs (sch : List Lbl) : Nat := (sch.filter Lbl.isInput).length

theorem bounded_progress (c : Cfg) : ∀ (sch : List Lbl) (s : St), InvA c s →
    effSteps c s sch + mu c (exec c s sch) ≤ mu c s + 3 * c.k * inputs sch := by
  intro sch
  induction sch with
  | nil => intro s _; simp [effSteps, exec_nil, inputs]
  | cons l ls ih =>
    intro s h
    have hi : inputs (l :: ls) = inputs ls + if l.isInput = true then 1 else 0 := by
      simp only [inputs, List.filter_cons]; split <;> rfl
    rw [exec_cons, hi, Nat.mul_add]
    by_cases he : enabled c s l = true <;> simp only [effSteps, he, if_true, Bool.false_eq_true, if_false]
    · have ih' := ih (fire c s l) (invA_step c s l h he)
      cases hin : l.isInput with
      | false =>
        have hm := mu_decreases c s l h hin he
        simp only [Bool.false_eq_true, if_false]
        omega
      | true =>
        obtain ⟨a, rfl⟩ : ∃ a, l = .deliver a := by cases l <;> first | exact ⟨_, rfl⟩ | cases hin
        have hm := mu_deliver c s a
        simp only [if_true]
        omega
    · have ih' := ih s h
      omega

/-- from the start: at most `9k+1` internal steps plus `3k` per delivery, whatever the schedule -/
theorem bounded_from_init (c : Cfg) (sch : List Lbl) :
    effSteps c (init c) sch ≤ 9 * c.k + 1 + 3 * c.k * inputs sch := by
  have := bounded_progress c sch (init c) (invA_init c)
  rw [mu_init] at this
  omega

/-- the state D5 ends in: the winner is committed to `ch_1 <- true` and flow 1 has gone away with `completeAction` -/
def Deadlocked (s : St) : Prop :=
  s.first = some 0 ∧ s.pc 0 = .notifying ∧ s.target = some 1 ∧ s.pc 1 = .completed

theorem deadlocked_step (c : Cfg) (h0 : c.termCap = 0) (s : St) (hd : Deadlocked s) (l : Lbl)
    (he : enabled c s l = true) : Deadlocked (fire c s l) := by
  obtain ⟨h1, h2, h3, h4⟩ := hd
  -- the winner moves only between two iterations of its loop, flow 1 is final
  have hpc0 : (fire c s l).pc 0 = s.pc 0 := by
    rcases fire_flows c s l he with ⟨e, _, _⟩ | ⟨j, p, v, _, hp, _, hn, e, _⟩ <;> rw [e]
    exact upd_other _ _ _ _ (fun e' => nomatch (hn (hp ▸ e' ▸ h2)).symm.trans h3)
  refine ⟨(fire_first c s l (by rw [h1]; nofun)).trans h1, hpc0.trans h2, ?_,
    (final_step c s l 1 (Or.inr (by rw [h4]; rfl)) he).trans h4⟩
  -- the loop stays at channel 1: nobody is there to receive, and it is not the winner's own
  cases l <;> simp only [enabled, Bool.and_eq_true, decide_eq_true_eq] at he
  case pick i t => rw [h3] at he; cases he.1.2
  case notify i t =>
    rw [h3] at he
    cases he.1.2
    simp only [h0, if_true, Bool.and_eq_true, decide_eq_true_eq, h4] at he
    cases he.2.1
  case closeOwn i => rw [h3] at he; cases he.2; rw [h4] at he; cases he.1.2
  all_goals exact h3

instance : DecidablePred Deadlocked := fun _ => inferInstanceAs (Decidable (_ ∧ _ ∧ _ ∧ _))

/-- **D5.** With unbuffered termination channels (`ebgTermCap = 0`, the code before a032601) there is an explicit schedule —
two alternatives; 0 wins the CAS and is about to offer `true` to 1 when 1's own event is delivered; 1 takes its action
in that same `select`, loses the CAS, gets `completeAction` and goes away — after which, WHATEVER is delivered and
however it is scheduled, the winner is still blocked on `ch_1 <- true`, no branch has continued and the wait group
never returns to zero: the instance hangs. -/
theorem C06_counterexample_deadlock (c : Cfg) (hk : c.k = 2) (h0 : c.termCap = 0) (hib : 1 ≤ c.inboxCap) :
    ∃ s, run c (init c) (deadlockWitness c) = some s ∧ Deadlocked s ∧
      ∀ sch, Deadlocked (exec c s sch) ∧ enabled c (exec c s sch) (.notify 0 1) = false ∧
        (∀ i, (exec c s sch).pc i ≠ .continued) ∧ 1 ≤ (exec c s sch).wg := by
  have hrun : ∃ s, run c (init c) (deadlockWitness c) = some s ∧ Deadlocked s := by
    obtain ⟨k, tc, mr, rc, ib⟩ := c
    dsimp only at hk h0 hib
    subst hk h0
    by_cases hr : rc = 0
    · subst hr
      rw [deadlockWitness, if_pos rfl]
      refine run_witness (c := ⟨2, 0, mr, 0, 1⟩) ?_ (by revert mr; decide +kernel)
      exact CapLe.of (capSame _) (capSame _) hib
    · rw [deadlockWitness, if_neg hr]
      refine run_witness (c := ⟨2, 0, mr, 1, 1⟩) ?_ (by revert mr; decide +kernel)
      exact CapLe.of (capSame _) (capOne (Nat.pos_of_ne_zero hr)) hib
  obtain ⟨s, hs, hd⟩ := hrun
  refine ⟨s, hs, hd, fun sch => ?_⟩
  have hinv : Inv c (exec c s sch) := by
    rw [← run_eq_exec _ _ _ _ hs]; exact inv_exec _ _ (inv_reach _ _) sch
  have hdl : Deadlocked (exec c s sch) :=
    exec_induct _ Deadlocked (fun s' l hs' he => deadlocked_step _ h0 s' hs' l he) sch s hd
  obtain ⟨d1, d2, d3, d4⟩ := hdl
  refine ⟨⟨d1, d2, d3, d4⟩, by simp [enabled, d4, h0], fun i hc => ?_, ?_⟩
  · cases (hinv.a.won_first i (by rw [hc]; rfl)).symm.trans d1
    rw [d2] at hc; cases hc
  · rw [hinv.w]
    exact List.countP_pos_iff.mpr ⟨0, List.mem_range.mpr (by omega), by rw [d2]; rfl⟩

/-- **Buffering alone is not the repair.** With `1 ≤ ebgTermCap` but the captured map variable still reassigned after
the winner's loop, a forked flow that evaluates its `select` only after the winner has finished looks its channel up
in the NEW empty map, waits on a nil channel and is never withdrawn: a quiescent state in which alternative 0 has
continued, alternative 1 still listens and the wait group is 2 — the instance cannot complete. (Not reachable with
unbuffered channels: there the winner's send waits for that flow.) -/
theorem C06_counterexample_late_select (c : Cfg) (hk : c.k = 2) (htc : 1 ≤ c.termCap) (hmr : c.mapReplaced = true)
    (hib : 1 ≤ c.inboxCap) :
    ∃ s, run c (init c) (lateSelectSched (decide (c.replyCap ≠ 0))) = some s ∧ terminal c s ∧
      s.pc 0 = .continued ∧ s.pc 1 = .selecting ∧ s.nilChan 1 = true ∧ s.wg = 2 ∧ ¬ settled c s := by
  -- evaluated at capacities 1 (reply channel: 0 or 1); in the end nobody is left who waits on a capacity
  have hrun : ∃ s, run c (init c) (lateSelectSched (decide (c.replyCap ≠ 0))) = some s ∧ s.pc 0 = .continued ∧
      s.pc 1 = .selecting ∧ s.nilChan 1 = true ∧ s.wg = 2 ∧ s.npc 0 = .idle ∧ s.npc 1 = .idle ∧ s.dels = [] ∧
      enabledLabels ⟨2, 1, true, 1, 1⟩ s = [] := by
    obtain ⟨k, tc, mr, rc, ib⟩ := c
    dsimp only at hk htc hmr hib ⊢
    subst hk hmr
    by_cases hr : rc = 0
    · rw [decide_eq_false (not_not_intro hr)]
      subst hr
      refine run_witness (c := ⟨2, 1, true, 0, 1⟩) ?_ (by decide +kernel)
      exact CapLe.of (capOne htc) (capSame _) hib
    · rw [decide_eq_true hr]
      refine run_witness (c := ⟨2, 1, true, 1, 1⟩) ?_ (by decide +kernel)
      exact CapLe.of (capOne htc) (capOne (Nat.pos_of_ne_zero hr)) hib
  obtain ⟨s, hs, p0, p1, pn, pw, n0, n1, hd, hel⟩ := hrun
  refine ⟨s, hs, ?_, p0, p1, pn, pw, fun ⟨w, _, _, _, hwg⟩ => by omega⟩
  have hpc : ∀ i, i < 2 → s.pc i ≠ .starting ∧ s.pc i ≠ .notifying :=
    forall_lt_two (by rw [p0]; decide) (by rw [p1]; decide)
  exact terminal_caps (terminal_of_enabledLabels _ _ hel) hk (Or.inr ⟨fun i hi => (hpc i hi).1, hd⟩)
    (Or.inr (forall_lt_two (by rw [n0]; decide) (by rw [n1]; decide))) (Or.inr fun i hi => (hpc i hi).2)

/-- node 1 is inside `actionChan <- flowAction{…}` and the flow that owned the channel has terminated -/
def NodeStuck (s : St) : Prop := s.npc 1 = .sending ∧ s.pc 1 = .terminated

theorem nodeStuck_step (c : Cfg) (h0 : c.replyCap = 0) (s : St) (hd : NodeStuck s) (l : Lbl)
    (he : enabled c s l = true) : NodeStuck (fire c s l) := by
  obtain ⟨h1, h2⟩ := hd
  refine ⟨?_, (final_step c s l 1 (Or.inr (by rw [h2]; rfl)) he).trans h2⟩
  -- the send needs flow 1 in its select
  cases l <;> simp only [enabled, Bool.and_eq_true, decide_eq_true_eq] at he
  case node j =>
    have hj : 1 ≠ j := fun e => by rw [← e, h1] at he; cases he.1.2
    simp only [fire, ite_app, upd_other _ _ _ _ hj, ite_self]
    exact h1
  case send j =>
    simp only [h0, if_true, decide_eq_true_eq] at he
    have hj : 1 ≠ j := fun e => by rw [← e, h2] at he; cases he.2
    simp only [fire, upd_other _ _ _ _ hj]
    exact h1
  all_goals exact h1

instance : DecidablePred NodeStuck := fun _ => inferInstanceAs (Decidable (_ ∧ _))

/-- **D21.** With the unbuffered reply channel of `catchEvent.NextAction` (`catchReplyCap = 0`, the code before c316620): after
the gateway has settled (0 continued, 1 withdrawn through its termination channel) one late delivery of alternative
1's event puts node 1 into a send nobody will ever receive; whatever happens afterwards the node stays there. -/
theorem C06_counterexample_late_event_blocks (c : Cfg) (hk : c.k = 2) (h0 : c.replyCap = 0) (hib : 1 ≤ c.inboxCap) :
    ∃ s, run c (init c) (settleSched (decide (c.termCap ≠ 0)) false) = some s ∧ settled c s ∧
      ∃ s', run c s lateEventSched = some s' ∧ NodeStuck s' ∧
        ∀ sch, NodeStuck (exec c s' sch) ∧ enabled c (exec c s' sch) (.send 1) = false := by
  have hrun : ∃ c0, CapLe c0 c ∧ ∃ s, run c (init c) (settleSched (decide (c.termCap ≠ 0)) false) = some s ∧
      s.pc 0 = .continued ∧ s.pc 1 = .terminated ∧ s.wg = 1 ∧
      (run c0 s lateEventSched).any (fun s' => decide (NodeStuck s')) = true := by
    obtain ⟨k, tc, mr, rc, ib⟩ := c
    dsimp only at hk h0 hib ⊢
    subst hk h0
    by_cases ht : tc = 0
    · rw [decide_eq_false (not_not_intro ht)]
      subst ht
      have hle : CapLe ⟨2, 0, mr, 0, 1⟩ ⟨2, 0, mr, 0, ib⟩ := CapLe.of (capSame _) (capSame _) hib
      refine ⟨_, hle, run_witness hle ?_⟩
      clear hle; revert mr; decide +kernel
    · rw [decide_eq_true ht]
      have hle : CapLe ⟨2, 1, mr, 0, 1⟩ ⟨2, tc, mr, 0, ib⟩ :=
        CapLe.of (capOne (Nat.pos_of_ne_zero ht)) (capSame _) hib
      refine ⟨_, hle, run_witness hle ?_⟩
      clear hle; revert mr; decide +kernel
  obtain ⟨c0, hle, s, hs, p0, p1, pw, hl⟩ := hrun
  obtain ⟨s', hs', hst⟩ := (Option.any_eq_true _ _).mp hl
  replace hs' := run_mono hle _ _ _ hs'
  replace hst : NodeStuck s' := of_decide_eq_true hst
  refine ⟨s, hs, settled_of _ hk s p0 p1 pw, s', hs', hst, fun sch => ?_⟩
  have hn : NodeStuck (exec c s' sch) :=
    exec_induct _ NodeStuck (fun x l hx he => nodeStuck_step _ h0 x hx l he) sch s' hst
  exact ⟨hn, by simp [enabled, hn.1, hn.2, h0]⟩

/-- … and with the inbox capacity `len(incoming)*2+1 = 3` four more deliveries later a caller of `ConsumeEvent` is
blocked for good: a quiescent state with a delivery still in flight. For every capacity of the termination channels;
the two statements below are its instances at 0 and at `1 ≤ tc`. -/
theorem late_delivery_blocked (mr : Bool) (tc : Nat) :
    ∃ s, run ⟨2, tc, mr, 0, 3⟩ (init ⟨2, tc, mr, 0, 3⟩) (lateBlockSched (decide (tc ≠ 0)) 3) = some s ∧
      s.dels = [(1, 1)] ∧ s.pc 0 = .continued ∧ s.pc 1 = .terminated ∧ terminal ⟨2, tc, mr, 0, 3⟩ s := by
  have hrun : ∃ s, run ⟨2, tc, mr, 0, 3⟩ (init ⟨2, tc, mr, 0, 3⟩) (lateBlockSched (decide (tc ≠ 0)) 3) = some s ∧
      s.dels = [(1, 1)] ∧ s.pc 0 = .continued ∧ s.pc 1 = .terminated ∧ enabledLabels ⟨2, 1, mr, 0, 3⟩ s = [] := by
    by_cases ht : tc = 0
    · subst ht
      refine run_witness (c := ⟨2, 0, mr, 0, 3⟩) ?_ (by revert mr; decide +kernel)
      exact CapLe.of (capSame _) (capSame _) (Nat.le_refl _)
    · rw [decide_eq_true ht]
      refine run_witness (c := ⟨2, 1, mr, 0, 3⟩) ?_ (by revert mr; decide +kernel)
      exact CapLe.of (capOne (Nat.pos_of_ne_zero ht)) (capSame _) (Nat.le_refl _)
  obtain ⟨s, hs, hd, p0, p1, hel⟩ := hrun
  -- the termination channels' capacity no longer matters: no winner is in its loop
  exact ⟨s, hs, hd, p0, p1, terminal_caps (terminal_of_enabledLabels _ _ hel) rfl (Or.inl rfl) (Or.inl rfl)
    (Or.inr (forall_lt_two (by rw [p0]; decide) (by rw [p1]; decide)))⟩

theorem late_delivery_blocked0 (mr : Bool) :
    ∃ s, run { k := 2, termCap := 0, mapReplaced := mr, replyCap := 0, inboxCap := 3 }
      (init { k := 2, termCap := 0, mapReplaced := mr, replyCap := 0, inboxCap := 3 }) (lateBlockSched false 3)
        = some s ∧ s.dels = [(1, 1)] ∧ s.pc 0 = .continued ∧ s.pc 1 = .terminated ∧
      terminal { k := 2, termCap := 0, mapReplaced := mr, replyCap := 0, inboxCap := 3 } s :=
  late_delivery_blocked mr 0

theorem late_delivery_blocked1 (mr : Bool) (tc : Nat) (htc : 1 ≤ tc) :
    ∃ s, run { k := 2, termCap := tc, mapReplaced := mr, replyCap := 0, inboxCap := 3 }
      (init { k := 2, termCap := tc, mapReplaced := mr, replyCap := 0, inboxCap := 3 }) (lateBlockSched true 3)
        = some s ∧ s.dels = [(1, 1)] ∧ s.pc 0 = .continued ∧ s.pc 1 = .terminated ∧
      terminal { k := 2, termCap := tc, mapReplaced := mr, replyCap := 0, inboxCap := 3 } s := by
  have := late_delivery_blocked mr tc
  rwa [decide_eq_true (Nat.ne_of_gt htc)] at this

def OneWinner (c : Cfg) : Prop :=
  ∀ sch : List Lbl,
    (∀ i j, ((exec c (init c) sch).pc i).won = true → ((exec c (init c) sch).pc j).won = true → i = j) ∧
    (∀ i, (((exec c (init c) sch).pc i).won = true ∨ (exec c (init c) sch).pc i = .completed) →
      ∃ w, w < c.k ∧ ((exec c (init c) sch).pc w).won = true) ∧
    (∀ i, i < c.k →
      ((exec c (init c) sch).pc i = .gotAction → enabled c (exec c (init c) sch) (.enterTransformer i) = true) ∧
      ((exec c (init c) sch).pc i = .inTransformer → enabled c (exec c (init c) sch) (.cas i) = true ∧
        ∃ w, w < c.k ∧ ((fire c (exec c (init c) sch) (.cas i)).pc w).won = true)) ∧
    (∀ i, ((exec c (init c) sch).pc i = .continued ∨ ((exec c (init c) sch).pc i).gone = true) →
      ∀ sch' : List Lbl, (exec c (exec c (init c) sch) sch').pc i = (exec c (init c) sch).pc i)

/-- `ebg_one_winner`: for every number of alternatives, every sequence of deliveries and every schedule at most one
alternative's action passes the compare-and-swap; as soon as any flow is past it there is exactly one winner; a flow
that has observed its competing event is never blocked before the compare-and-swap; a branch that continued stays
continued (it continues exactly once) and a withdrawn alternative never continues. Holds for every value of the
facts. -/
theorem ebg_one_winner (c : Cfg) : OneWinner c := by
  intro sch
  have h := (inv_reach c sch).a
  refine ⟨fun i j hi hj => Option.some.inj ((h.won_first i hi).symm.trans (h.won_first j hj)),
    fun i hi => h.winner (hi.elim (fun hi => by rw [h.won_first i hi]; nofun) (h.compl i)),
    fun i hi => ?_, fun i hf sch' => final_absorbing c _ i hf sch'⟩
  generalize exec c (init c) sch = s at h ⊢
  refine ⟨fun hp => by simp [enabled, hi, hp], fun hp => ?_⟩
  have he : enabled c s (.cas i) = true := by simp [enabled, hi, hp]
  -- the flag is set after the compare-and-swap, whoever set it
  exact ⟨he, (invA_step c s _ h he).winner (by cases hf : s.first <;> simp [fire, hf])⟩

/-- the winner is never blocked, and quiescence after an observed event means: one branch continued, everybody else
withdrawn, wait group down to the winner -/
def NoBlock (c : Cfg) : Prop :=
  ∀ sch : List Lbl,
    (∀ i t, (exec c (init c) sch).pc i = .notifying → (exec c (init c) sch).target = some t → t ≠ i →
      enabled c (exec c (init c) sch) (.notify i t) = true) ∧
    (∀ i, (exec c (init c) sch).pc i = .notifying →
      (∃ t, enabled c (exec c (init c) sch) (.pick i t) = true) ∨
      (∃ t, enabled c (exec c (init c) sch) (.notify i t) = true) ∨
      enabled c (exec c (init c) sch) (.closeOwn i) = true ∨ enabled c (exec c (init c) sch) (.finish i) = true) ∧
    (terminal c (exec c (init c) sch) → (∃ i, i < c.k ∧ ((exec c (init c) sch).pc i).observed = true) →
      settled c (exec c (init c) sch))

/-- the winner never blocks: needs only buffered termination channels -/
theorem ebg_winner_never_blocks (c : Cfg) (hcap : 1 ≤ c.termCap) (sch : List Lbl) (i t : Nat)
    (hp : (exec c (init c) sch).pc i = .notifying) (ht : (exec c (init c) sch).target = some t) (hne : t ≠ i) :
    enabled c (exec c (init c) sch) (.notify i t) = true :=
  notify_enabled c _ (inv_reach c sch).a hcap i t hp ht hne

/-- `ebg_no_block`: with buffered termination channels (`1 ≤ ebgTermCap`) and the map variable left alone, the
winner never blocks, and whenever nothing but a new delivery can happen after some event was observed, exactly one
branch has continued, every other flow has terminated or completed and the wait group is 1. Together with
`ebg_bounded` / `bounded_from_init` (at most `9k+1+3k·deliveries` internal steps) this is "within bounded steps". -/
theorem ebg_no_block (c : Cfg) (hcap : 1 ≤ c.termCap) (hmap : c.mapReplaced = false) (hib : 1 ≤ c.inboxCap) :
    NoBlock c :=
  fun sch => ⟨fun i t hp ht hne => ebg_winner_never_blocks c hcap sch i t hp ht hne,
    fun i hp => winner_step_enabled c _ (inv_reach c sch).a hcap i hp,
    fun hterm hobs => terminal_settled c _ (inv_reach c sch) hcap hmap hib hterm hobs⟩

/-- late deliveries have no effect: no token moves, no node is stuck in a send, no caller stays blocked -/
def LateInert (c : Cfg) : Prop :=
  ∀ sch : List Lbl, settled c (exec c (init c) sch) → ∀ sch' : List Lbl,
    (exec c (exec c (init c) sch) sch').pc = (exec c (init c) sch).pc ∧
    (exec c (exec c (init c) sch) sch').first = (exec c (init c) sch).first ∧
    (exec c (exec c (init c) sch) sch').wg = (exec c (init c) sch).wg ∧
    (∀ j, (exec c (exec c (init c) sch) sch').npc j = .sending →
      enabled c (exec c (exec c (init c) sch) sch') (.send j) = true) ∧
    (terminal c (exec c (exec c (init c) sch) sch') → (exec c (exec c (init c) sch) sch').dels = [])

/-- `ebg_late_events_inert`: needs the reply channel parked at a catch node not to block the node
(`1 ≤ catchReplyCap`). False for `catchReplyCap = 0` (D21): see `C06_counterexample_late_event_blocks`. -/
theorem ebg_late_events_inert (c : Cfg) (hrc : 1 ≤ c.replyCap) (hib : 1 ≤ c.inboxCap) : LateInert c := by
  intro sch hs sch'
  have hq := settled_quiet c _ hs
  obtain ⟨a, b, d⟩ := late_events_no_token_change c _ hq sch'
  have hinv : Inv c (exec c (exec c (init c) sch) sch') := inv_exec c _ (inv_reach c sch) sch'
  exact ⟨a, b, d, fun j hj => send_enabled c _ hinv.n hrc j hj,
    fun ht => terminal_no_delivery_blocked c _ hinv hrc hib ht⟩

/-- the part of it that holds whatever the facts are: late deliveries move no token and leave flag and wait group
alone -/
theorem ebg_late_events_inert_partial (c : Cfg) (sch : List Lbl) (hs : settled c (exec c (init c) sch))
    (sch' : List Lbl) :
    (exec c (exec c (init c) sch) sch').pc = (exec c (init c) sch).pc ∧
    (exec c (exec c (init c) sch) sch').first = (exec c (init c) sch).first ∧
    (exec c (exec c (init c) sch) sch').wg = (exec c (init c) sch).wg :=
  late_events_no_token_change c _ (settled_quiet c _ hs) sch'

/-- C06 for a source with facts `f` (the field `k` of `f` is ignored): gateways with any number ≥ 2 of alternatives,
all delivery sequences, sequential or overlapping, all schedules. -/
def C06_statement (f : Cfg) : Prop :=
  ∀ k, 2 ≤ k → OneWinner { f with k := k } ∧ NoBlock { f with k := k } ∧ LateInert { f with k := k }

def Ok (f : Cfg) : Bool := decide (1 ≤ f.termCap) && !f.mapReplaced && decide (1 ≤ f.replyCap)

theorem C06_general (f : Cfg) (hib : 1 ≤ f.inboxCap) (h : Ok f = true) : C06_statement f := by
  simp only [Ok, Bool.and_eq_true, decide_eq_true_eq, Bool.not_eq_true'] at h
  obtain ⟨⟨h1, h2⟩, h3⟩ := h
  intro k _
  exact ⟨ebg_one_winner _, ebg_no_block _ h1 h2 hib, ebg_late_events_inert _ h3 hib⟩

theorem noBlock_fails (f : Cfg) (hib : 1 ≤ f.inboxCap) (h : f.termCap = 0 ∨ f.mapReplaced = true) :
    ¬ NoBlock { f with k := 2 } := by
  intro hnb
  by_cases h0 : f.termCap = 0
  · obtain ⟨s, hs, ⟨_, hp, ht, hc⟩, _⟩ := C06_counterexample_deadlock { f with k := 2 } rfl h0 hib
    have := (hnb (deadlockWitness { f with k := 2 })).1 0 1
    rw [run_eq_exec _ _ _ _ hs] at this
    simpa [enabled, hc, h0] using this hp ht (by omega)
  · obtain ⟨s, hs, hterm, p0, _, _, _, hns⟩ :=
      C06_counterexample_late_select { f with k := 2 } rfl (Nat.pos_of_ne_zero h0) (h.resolve_left h0) hib
    have := (hnb (lateSelectSched (decide (({ f with k := 2 } : Cfg).replyCap ≠ 0)))).2.2
    rw [run_eq_exec _ _ _ _ hs] at this
    exact hns (this hterm ⟨0, Nat.zero_lt_two, by rw [p0]; rfl⟩)

theorem lateInert_fails (f : Cfg) (hib : 1 ≤ f.inboxCap) (h : f.replyCap = 0) : ¬ LateInert { f with k := 2 } := by
  intro hli
  obtain ⟨s, hs, hset, s', hs', hst, hfor⟩ := C06_counterexample_late_event_blocks { f with k := 2 } rfl h hib
  have e := run_eq_exec _ _ _ _ hs
  have := (hli (settleSched (decide (({ f with k := 2 } : Cfg).termCap ≠ 0)) false) (by rw [e]; exact hset)
    lateEventSched).2.2.2.1 1
  rw [e, run_eq_exec _ _ _ _ hs'] at this
  exact nomatch (this hst.1).symm.trans (hfor []).2

theorem C06_cex (f : Cfg) (hib : 1 ≤ f.inboxCap) (h : Ok f = false) : ¬ C06_statement f := by
  intro hst
  obtain ⟨_, hnb, hli⟩ := hst 2 (Nat.le_refl 2)
  by_cases ht : f.termCap = 0
  · exact noBlock_fails f hib (.inl ht) hnb
  by_cases hm : f.mapReplaced = true
  · exact noBlock_fails f hib (.inr hm) hnb
  · refine lateInert_fails f hib ?_ hli
    simp [Ok, hm] at h
    omega

/-- C06 is proved for every source whose facts satisfy `Ok` (`1 ≤ ebgTermCap`, the map variable not reassigned,
`1 ≤ catchReplyCap`); for the facts as first extracted (`today`) it is refuted (`C06_today_fails`). The same
statement as `C06_general`. -/
theorem C06_holds_partial (f : Cfg) (hib : 1 ≤ f.inboxCap) (h : Ok f = true) : C06_statement f :=
  C06_general f hib h

/-- the facts as first extracted, before the repairs a032601 and c316620: unbuffered termination channels, map variable reassigned, unbuffered reply channel,
inbox `len(incoming)*2+1` with one incoming flow -/
def today : Cfg := { k := 2, termCap := 0, mapReplaced := true, replyCap := 0, inboxCap := 3 }

theorem C06_today_fails : ¬ C06_statement today := C06_cex today (by decide) (by decide)

/-- the hypotheses of `C06_general` are satisfiable -/
example : Ok { today with termCap := 1, mapReplaced := false, replyCap := 1 } = true := by decide

set_option maxRecDepth 8000 in
/-- `settled` states are reachable (hypothesis of `ebg_late_events_inert`), also under the repaired facts -/
example : ∃ sch, settled { today with termCap := 1, mapReplaced := false, replyCap := 1 }
    (exec { today with termCap := 1, mapReplaced := false, replyCap := 1 }
      (init { today with termCap := 1, mapReplaced := false, replyCap := 1 }) sch) := by
  refine ⟨settleSched true true, settled_of _ rfl _ ?_ ?_ ?_⟩ <;> decide

set_option maxRecDepth 8000 in
/-- a quiescent state in which an event has been observed is reachable (hypotheses of the last part of `NoBlock`) -/
example : ∃ sch, (∃ i, i < 2 ∧ ((exec today (init today) sch).pc i).observed = true) ∧
    enabledLabels today (exec today (init today) sch) = [] :=
  ⟨settleSched false false, ⟨0, by decide, by decide⟩, by decide⟩

/-- a winner in its loop with a committed target exists (hypotheses of `ebg_winner_never_blocks`) -/
example : ∃ sch, (exec { today with termCap := 1 } (init { today with termCap := 1 }) sch).pc 0 = .notifying ∧
    (exec { today with termCap := 1 } (init { today with termCap := 1 }) sch).target = some 1 :=
  ⟨setupSched 2 ++ deliverSched 2 0 ++ [.node 0, .send 0, .enterTransformer 0, .cas 0, .pick 0 1], by decide,
    by decide⟩

/-- two alternatives released into the compare-and-swap together: exactly one passes (the facts of `today`, and repaired) -/
example : ((run today (init today) (bothInTransformerSched false)).map (fun s => (s.pc 0, s.pc 1)))
    = some (.notifying, .completed) := by decide
example : ((run { today with termCap := 1, mapReplaced := false, replyCap := 1 }
      (init today) (bothInTransformerSched true)).map (fun s => (s.pc 0, s.pc 1)))
    = some (.notifying, .completed) := by decide

/-- the schedules of the counterexamples really are schedules of the model under the facts `today` -/
example : (run today (init today) deadlockSched).isSome = true := by decide
example : (run today (init today) (lateBlockSched false 3)).isSome = true := by decide

end Bpmn.Props.C06
