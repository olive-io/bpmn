import Bpmn.Lemmas.Satisfier
/-!
# C14 — Multiple / parallel-multiple catch events account correctly over any history

Model: `Bpmn.Model.Satisfier` (port of pkg/logic `Satisfy`, both the catch and the throw satisfier; the throw satisfier is the `par := true` instance).
A history is a `List (Option Nat)`: for each delivered event the index of the first definition it
matches, or `none`. All statements are for histories of any length and any number of definitions.
-/
namespace Bpmn.Props.C14
open Bpmn.Model.Satisfier

/-- the full statement of C14 on the model -/
def C14_statement : Prop :=
  -- (a) plain multiple (or a single definition): fires on every matching event, never otherwise
  (∀ (len : Nat) (par : Bool) (h : List (Option Nat)), (par = false ∨ len = 1) →
      (run (Sat.init len par) h).2 = h.map Option.isSome) ∧
  -- (b) parallel multiple: never more firings than the least matched definition
  (∀ (len : Nat) (h : List (Option Nat)), 2 ≤ len → (∀ e ∈ h, validEv len e) →
      ∀ i, i < len → fires (run (Sat.init len true) h).2 ≤ matchCount h i) ∧
  -- (c) parallel multiple: every definition matched exactly k times ⇒ fired exactly k times
  (∀ (len : Nat) (h : List (Option Nat)) (k : Nat), 2 ≤ len → (∀ e ∈ h, validEv len e) →
      (∀ i, i < len → matchCount h i = k) → fires (run (Sat.init len true) h).2 = k) ∧
  -- (d) an event matching no definition changes nothing
  (∀ (s : Sat), satisfy s none = (s, false, didNotMatch))

theorem run_inv (es : List (Option Nat)) :
    ∀ (s : Sat) (h : List (Option Nat)) (f : Nat), s.par = true → 2 ≤ s.len →
      (∀ e ∈ es, validEv s.len e) → Inv s h f →
      Inv (run s es).1 (h ++ es) (f + fires (run s es).2) ∧ (run s es).1.len = s.len := by
  induction es with
  | nil => intro s h f _ _ _ inv; simpa [run, fires] using inv
  | cons e es ih =>
    intro s h f hpar h2 hv inv
    obtain ⟨hlen, hpar'⟩ := satisfy_len s e
    obtain ⟨hinv, hl⟩ := ih (satisfy s e).1 (h ++ [e]) _ (hpar'.trans hpar) (hlen ▸ h2)
      (fun e' he' => hlen ▸ hv e' (List.mem_cons_of_mem e he')) (inv_step s h f e hpar h2 (hv e List.mem_cons_self) inv)
    rw [List.append_assoc, Nat.add_assoc, ← fires_cons] at hinv
    exact ⟨hinv, hl.trans hlen⟩

theorem run_init_inv (len : Nat) (h : List (Option Nat)) (h2 : 2 ≤ len) (hv : ∀ e ∈ h, validEv len e) :
    Inv (run (Sat.init len true) h).1 h (fires (run (Sat.init len true) h).2) ∧
      (run (Sat.init len true) h).1.len = len := by
  have := run_inv h (Sat.init len true) [] 0 rfl h2 hv (inv_init len true)
  rwa [List.nil_append, Nat.zero_add] at this

theorem multiple_fires_on_any (len : Nat) (par : Bool) (h : List (Option Nat))
    (hp : par = false ∨ len = 1) : (run (Sat.init len par) h).2 = h.map Option.isSome := by
  have key : ∀ (s : Sat), (s.par = false ∨ s.len = 1) → (run s h).2 = h.map Option.isSome := by
    induction h with
    | nil => intro s _; rfl
    | cons e es ih =>
      intro s hs
      have hst : (satisfy s e).1 = s ∧ (satisfy s e).2.1 = e.isSome := by
        cases e with
        | none => exact ⟨rfl, rfl⟩
        | some i =>
          unfold satisfy
          rcases hs with hs | hs <;> simp [hs]
      simp only [run, List.map_cons]
      rw [hst.1, hst.2, ih s hs]
  exact key _ hp

theorem pm_bound (len : Nat) (h : List (Option Nat)) (h2 : 2 ≤ len)
    (hv : ∀ e ∈ h, validEv len e) (i : Nat) (hi : i < len) :
    fires (run (Sat.init len true) h).2 ≤ matchCount h i := by
  obtain ⟨inv, hl⟩ := run_init_inv len h h2 hv
  rw [inv.count i (by rw [hl]; exact hi)]
  exact Nat.le_add_right _ _

theorem pm_exact (len : Nat) (h : List (Option Nat)) (k : Nat) (h2 : 2 ≤ len)
    (hv : ∀ e ∈ h, validEv len e) (hk : ∀ i, i < len → matchCount h i = k) :
    fires (run (Sat.init len true) h).2 = k := by
  obtain ⟨inv, hl⟩ := run_init_inv len h h2 hv
  have hcount : ∀ j, j < len → k = fires (run (Sat.init len true) h).2 +
      List.countP (has · j) (run (Sat.init len true) h).1.chains :=
    fun j hj => (hk j hj).symm.trans (inv.count j (by rw [hl]; exact hj))
  cases hch : (run (Sat.init len true) h).1.chains with
  | nil =>
    have := hcount 0 (by omega)
    rw [hch] at this
    exact this.symm
  | cons c cs =>
    exfalso
    have hcm : c ∈ (run (Sat.init len true) h).1.chains := by rw [hch]; exact List.mem_cons_self
    obtain ⟨hclen, hcnf⟩ := inv.wf c hcm
    obtain ⟨i0, hi0, hall⟩ := inv.common (by rw [hch]; exact List.cons_ne_nil c cs)
    -- every definition is matched as often as `i0`, hence is in as many chains: all of them; so `c` is full
    have h0 := hcount i0 (by rw [← hl]; exact hi0)
    rw [List.countP_eq_length.mpr hall] at h0
    have hfull : full c = true := (full_iff c).mpr fun j hj => by
      have hj := hcount j (by rw [← hl, ← hclen]; exact hj)
      exact (List.countP_eq_length (p := (has · j))).mp (by omega) c hcm
    rw [hcnf] at hfull
    cases hfull

theorem nonmatching_inert (s : Sat) : satisfy s none = (s, false, didNotMatch) := rfl

/-- C14 holds on the model, for every history length and every number of definitions. -/
theorem C14_holds : C14_statement :=
  ⟨multiple_fires_on_any, pm_bound, pm_exact, nonmatching_inert⟩

/-! Non-vacuity: concrete histories meeting the hypotheses (these are tests, not the claim). -/
example : fires (run (Sat.init 3 true) [some 0, some 1, some 0, some 2, some 2, some 1]).2 = 2 := by decide
example : (∀ e ∈ [some 0, some 1, none, some 2], validEv 3 e) := by
  intro e he; simp at he; rcases he with rfl | rfl | rfl | rfl <;> simp [validEv]
example : fires (run (Sat.init 2 true) [some 0, some 0, some 1]).2 = 1 ∧
    matchCount [some 0, some 0, some 1] 1 = 1 := by decide

end Bpmn.Props.C14
