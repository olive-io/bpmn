import Bpmn.Props.C17
import Bpmn.Gen.C17
/-!
# C17 at the tables extracted from the current /repo tree

`Bpmn.Gen.C17.lockTable` / `ownTable` are regenerated from the Go source on every run
(extract/facts_c17.go). This module states which rows the lock-set discipline is claimed for and checks
the claim on the extracted rows in the kernel.

* `knownUnprotected` — the rows that do NOT satisfy the syntactic discipline on the unchanged tree, listed
  explicitly by (field, function, write?). `suspect`: nothing visible protects the access — a candidate for a
  real race, which only the dynamic search (`-race`) can confirm (all four `suspect` rows below WERE confirmed:
  known findings D30–D32). `protocol`: the access is ordered by something the table cannot see (a lock held
  across functions, a channel hand-off); argued in the note, not proved; the dynamic search found no race on it.
  `unreachable`: unprotected, but no execution can make the conflicting write happen.
* `lockTable_ok` / `current_no_regression` — the pairwise check holds on `protectedRows`; the list of failing
  rows is empty. Deleting a Lock/Unlock pair, switching to another mutex, adding an unlocked access site or
  turning an atomic access into a plain one changes the extracted row, the check fails, this module stops
  building and the `#eval` below names the rows in its error message.
-/
namespace Bpmn.Props.C17
open Bpmn.Model.Lockset

inductive Why | suspect | protocol | unreachable
deriving DecidableEq, Repr

structure Known where
  key : String × String × Bool
  why : Why
  note : String

def knownUnprotected : List Known := [
  -- FlowNodeMapping: created locked by NewLockedFlowNodeMapping, filled by the constructing goroutine, unlocked by
  -- Finalize; readers take RLock. The write lock is held across functions, invisible to an intra-procedural table.
  { key := ("FlowNodeMapping.mapping", "FlowNodeMapping.RegisterElementToFlowNode", false), why := .protocol,
    note := "write lock taken in NewLockedFlowNodeMapping, released in Finalize" },
  { key := ("FlowNodeMapping.mapping", "FlowNodeMapping.RegisterElementToFlowNode", true), why := .protocol,
    note := "write lock taken in NewLockedFlowNodeMapping, released in Finalize" },
  -- CloneItems reads the locator map under vmu (the VARIABLES mutex); writers (PutIItemAwareLocator) hold lmu.
  { key := ("data.FlowDataLocator.locators", "FlowDataLocator.CloneItems", false), why := .suspect,
    note := "wrong mutex: vmu.RLock instead of lmu.RLock" },
  -- Clone() of the three containers iterates the maps without the container's mutex.
  { key := ("data.ObjectContainer.dataObjects", "ObjectContainer.Clone", false), why := .suspect,
    note := "unlocked map iteration; writers: PutItemAwareById (mu.Lock), CloneFor" },
  { key := ("data.ObjectContainer.propertiesByName", "ObjectContainer.Clone", false), why := .suspect,
    note := "unlocked map iteration; writer: CloneFor" },
  { key := ("data.PropertyContainer.items", "PropertyContainer.Clone", false), why := .suspect,
    note := "unlocked map iteration; writers: PutItemAwareByName (mu.Lock), CloneFor" },
  -- HeaderContainer has no mutex at all; its only writer is CloneFor (reached through FlowDataLocator.Merge). But it
  -- has no PutItemAwareByName of its own (the embedded DefaultItemAwareLocator's is a no-op), so every HeaderContainer's
  -- map stays empty and CloneFor copies nothing: the write can not happen (probe: Merge against CloneItems, no report).
  { key := ("data.HeaderContainer.items", "HeaderContainer.CloneFor", true), why := .unreachable,
    note := "no mutex; readers FindItemAwareByName / Clone are unlocked too; items is never populated" },
  -- event-based gateway: the map variable captured by the `terminate` closure ($1) is filled by run before the
  -- action is handed out (ordered by the channel send) and REASSIGNED by the CAS winner inside the transformer ($2).
  { key := ("eventBasedGateway.run.terminationChannels", "eventBasedGateway.run", true), why := .protocol,
    note := "filled before `m.response <- action` publishes the closures" },
  -- candidate from reading, REFUTED: a loser reads the variable when it evaluates its select, then receives on its
  -- unbuffered termination channel; the winner reassigns only after every such send has completed (a receive
  -- synchronises before the completion of the send), and a flow that lost the CAS never reads the variable again.
  -- No report in 120+ event-gateway cases under -race with perturbation.
  { key := ("eventBasedGateway.run.terminationChannels", "eventBasedGateway.run$2", true), why := .protocol,
    note := "reassigned by the CAS winner after all notification sends on unbuffered channels have completed" }
]

def isKnown (r : Row) : Bool := knownUnprotected.any (fun k => k.key == r.key)

/-- the rows the discipline is claimed for: the object is shared and the row is not listed above -/
def protectedRows : List Row := Bpmn.Gen.C17.lockTable.filter (fun r => !r.fresh && !isKnown r)

/-- the listed rows that are (still) unprotected at the current tree: each is a candidate the dynamic search tries
    to confirm; a repaired one drops out of this list without any alarm -/
def stillUnprotected : List (String × String × Bool) :=
  let shared := Bpmn.Gen.C17.lockTable.filter (fun r => !r.fresh)
  ((shared.filter isKnown).filter (fun a => !(shared.all (fun b => pairOk a b)))).map Row.key

-- names the rows in the build error when an obligation below fails
#eval show IO Unit from do
  let f := failing protectedRows
  let o := ownFailing Bpmn.Gen.C17.ownTable
  if !f.isEmpty then
    throw (IO.userError ("C17 lock table regression: rows no longer protected by a common mutex: " ++
      " ; ".intercalate (f.map (fun k => s!"{k.1} in {k.2.1} ({if k.2.2 then "write" else "read"})"))))
  if !o.isEmpty then
    throw (IO.userError ("C17 ownership regression: node state touched outside the node's run goroutine: " ++
      " ; ".intercalate (o.map (fun k => s!"{k.1}.{k.2.1} in {k.2.2}"))))

/-- every listed shared field / node struct was found in the source -/
theorem tables_found :
    (Bpmn.Gen.C17.lockTable.all (fun r => r.fn != "<not-found>") &&
     Bpmn.Gen.C17.ownTable.all (fun r => r.fn != "<not-found>")) = true := by decide +kernel

/-- both facts about the claimed rows in one evaluation: filtering the extracted table is the dearer half of
    either, and the kernel does it once -/
theorem claimed_rows_checked : (tableOk protectedRows && decide (40 ≤ protectedRows.length)) = true := by
  decide +kernel

/-- the pairwise lock-set check holds on every claimed row of the extracted table -/
theorem lockTable_ok : tableOk protectedRows = true := (Bool.and_eq_true_iff.1 claimed_rows_checked).1

/-- a row that is protected today stays protected: no claimed row fails against any other claimed row -/
theorem current_no_regression : failing protectedRows = [] := (failing_eq_nil_iff _).2 lockTable_ok

/-- node state is touched only by the node's own goroutine (or is immutable once shared / atomic) -/
theorem ownership_ok : ownFailing Bpmn.Gen.C17.ownTable = [] := by decide +kernel

/-- the discipline at the current tree: every well-formed interleaving whose accesses are executions of claimed
    sites is race free -/
theorem current_race_free (τ : List Ev) (wf : WF τ) (hcov : Covered protectedRows τ) : RaceFree τ :=
  table_sound protectedRows lockTable_ok τ wf hcov

/-- the claim is about a non-empty table. `40` is a floor, not a count: far below the claimed rows of any tree seen
    (86 of 107 rows at /repo 16ec627), so that an extraction that loses most of the table does not pass -/
theorem current_nonempty : 40 ≤ protectedRows.length :=
  of_decide_eq_true (Bool.and_eq_true_iff.1 claimed_rows_checked).2

end Bpmn.Props.C17
