import Bpmn.Lemmas.Engine
/-!
# C01 / C19 — a block-level theorem: every CHAIN of activities, of any length

`chainProc ids` is the program the process builder produces (start event → activity₁ → … → activityₙ → end event, one
sequence flow between neighbours, no conditions): the engine model — at EVERY configuration of the code's deviation
switches — requests the activities once each, in insertion order, one per answer, and then completes at the end event;
nothing else is ever requested. Unbounded in the number of activities; proved by induction along the chain with the
state invariant `AtTask`.

Node ids are arbitrary pairwise distinct strings; the flow leaving node `a` is named `fl a` for an arbitrary naming
function that is injective on the nodes of the chain.
-/
namespace Bpmn.Props.C01Chain
open Bpmn.Model Bpmn.Model.Engine

def chainNodes (fl : String → String) : String → List String → List Node
  | prev, [] => [{ id := "e", kind := .end_, ins := [fl prev], outs := [] }]
  | prev, a :: rest => { id := a, kind := .task, ins := [fl prev], outs := [fl a] } :: chainNodes fl a rest

def chainFlows (fl : String → String) : String → List String → List SFlow
  | prev, [] => [{ id := fl prev, src := prev, dst := "e", cond := .none }]
  | prev, a :: rest => { id := fl prev, src := prev, dst := a, cond := .none } :: chainFlows fl a rest

def chainProc (fl : String → String) (ids : List String) : Proc :=
  { nodes := { id := "s", kind := .start, ins := [], outs := [fl "s"] } :: chainNodes fl "s" ids,
    flows := chainFlows fl "s" ids }

structure Wf (fl : String → String) (ids : List String) : Prop where
  nodup : ("s" :: "e" :: ids).Nodup
  inj : ∀ a ∈ "s" :: ids, ∀ b ∈ "s" :: ids, fl a = fl b → a = b

theorem find?_of_mem_nodup {α : Type _} (f : α → String) : ∀ (l : List α) (x : α), x ∈ l → (l.map f).Nodup →
    l.find? (fun y => f y == f x) = some x
  | y :: l, x, hx, hnd => by
    rw [List.map_cons, List.nodup_cons] at hnd
    rcases List.mem_cons.mp hx with rfl | hx'
    · exact List.find?_cons_of_pos (beq_self_eq_true _)
    · have hne : ¬ (f y == f x) = true := fun e => hnd.1 (eq_of_beq e ▸ List.mem_map_of_mem hx')
      rw [List.find?_cons_of_neg (p := fun y => f y == f x) hne]
      exact find?_of_mem_nodup f l x hx' hnd.2

theorem chainNodes_ids (fl : String → String) : ∀ (ids : List String) (prev : String),
    (chainNodes fl prev ids).map (·.id) = ids ++ ["e"]
  | [], _ => rfl
  | a :: rest, _ => by simp [chainNodes, chainNodes_ids fl rest a]

theorem chainNodes_no_incl (fl : String → String) : ∀ (ids : List String) (prev : String),
    (chainNodes fl prev ids).filter (·.kind == .incl) = []
  | [], _ => by
    have : (Kind.end_ == Kind.incl) = false := by decide
    simp [chainNodes, List.filter, this]
  | a :: rest, _ => by
    have : (Kind.task == Kind.incl) = false := by decide
    simp only [chainNodes, List.filter, this]
    exact chainNodes_no_incl fl rest a

theorem mem_task (fl : String → String) (a : String) (post : List String) : ∀ (pre : List String) (prev : String),
    ∃ q, ({ id := a, kind := .task, ins := [fl q], outs := [fl a] } : Node) ∈ chainNodes fl prev (pre ++ a :: post)
  | [], prev => ⟨prev, List.mem_cons_self ..⟩
  | b :: pre, _ => (mem_task fl a post pre b).imp fun _ h => List.mem_cons_of_mem _ h

theorem mem_end (fl : String → String) : ∀ (ids : List String) (prev : String),
    ∃ q, ({ id := "e", kind := .end_, ins := [fl q], outs := [] } : Node) ∈ chainNodes fl prev ids
  | [], prev => ⟨prev, List.mem_cons_self ..⟩
  | a :: rest, _ => (mem_end fl rest a).imp fun _ h => List.mem_cons_of_mem _ h

theorem find_flow (fl : String → String) (ids : List String) (prev : String) :
    (chainFlows fl prev ids).find? (·.id == fl prev) =
      some { id := fl prev, src := prev, dst := (ids.head?).getD "e", cond := .none } := by
  cases ids <;> simp [chainFlows]

theorem find_flow_later (fl : String → String) (pre : List String) : ∀ (prev a : String) (post : List String),
    (prev :: (pre ++ a :: post)).Nodup →
    (∀ x ∈ prev :: (pre ++ a :: post), ∀ y ∈ prev :: (pre ++ a :: post), fl x = fl y → x = y) →
    (chainFlows fl prev (pre ++ a :: post)).find? (·.id == fl a) =
      some { id := fl a, src := a, dst := (post.head?).getD "e", cond := .none } := by
  -- the flow leaving `prev` is not the one looked for: flow names are distinct per source
  have skip : ∀ (l : List String) (prev a : String), (prev :: l).Nodup → a ∈ l →
      (∀ x ∈ prev :: l, ∀ y ∈ prev :: l, fl x = fl y → x = y) → (fl prev == fl a) = false := by
    intro l prev a hnd ha hinj
    have hne : prev ≠ a := fun e => (List.nodup_cons.mp hnd).1 (e ▸ ha)
    simpa using fun e => hne (hinj prev (List.mem_cons_self ..) a (List.mem_cons_of_mem _ ha) e)
  induction pre with
  | nil =>
    intro prev a post hnd hinj
    simp only [List.nil_append, chainFlows, List.find?, skip _ prev a hnd (List.mem_cons_self ..) hinj]
    exact find_flow fl post a
  | cons b pre ih =>
    intro prev a post hnd hinj
    simp only [List.cons_append, chainFlows, List.find?,
      skip _ prev a hnd (List.mem_cons_of_mem _ (List.mem_append_right _ (List.mem_cons_self ..))) hinj]
    exact ih b a post (List.nodup_cons.mp hnd).2 fun x hx y hy =>
      hinj x (List.mem_cons_of_mem _ hx) y (List.mem_cons_of_mem _ hy)

theorem evalFlows_single (p : Proc) (s : St) (f : String) (sf : SFlow) (h : p.flow? f = some sf)
    (hc : sf.cond = .none) : evalFlows p s [f] false = ([(f, true)], s) := by
  simp [evalFlows, evalFlow, h, hc, Cond.eval, Cond.evalB]

theorem leave_single (cfg : Cfg) (p : Proc) (s : St) (t : Tok) (f : String) (sf : SFlow)
    (h : p.flow? f = some sf) (hc : sf.cond = .none) :
    selectFlows cfg p s t [f] false = ([{ t with node := sf.dst }], false, s.recordFlow p t.node [t.fid]) := by
  simp [selectFlows, evalFlows_single p s f sf h hc, forkToks, flowDst, h, St.inherit]

theorem runWork_parks (cfg : Cfg) (p : Proc) (fuel : Nat) (s s' : St) (t : Tok)
    (hno : p.nodes.filter (·.kind == .incl) = []) (ha : arrive cfg p s t = ([], s')) (hs : s'.subs = [])
    (hi : s'.ig = []) : runWork cfg p (fuel + 2) [t] s = s' := by
  rw [Lemmas.Engine.runWork_cons cfg hno, ha]
  exact Lemmas.Engine.runWork_settled fuel
    ((Lemmas.Engine.settle_noIncl cfg hno s').trans (Lemmas.Engine.settleSubs_idle (by rw [hs]; rfl))) hi

theorem runWork_end (cfg : Cfg) (p : Proc) (fuel : Nat) (s : St) (t : Tok) (n : Node)
    (hno : p.nodes.filter (·.kind == .incl) = []) (hs : s.subs = []) (hi : s.ig = [])
    (hn : p.node? t.node = some n) (hk : n.kind = .end_) :
    (runWork cfg p (fuel + 2) [t] s).obs = s.obs ++ [.complete n.id] ∧
    (runWork cfg p (fuel + 2) [t] s).pending = s.pending := by
  rw [runWork_parks cfg p fuel s _ t hno (Lemmas.Engine.arrive_end_eq hn hk) hs hi]
  exact ⟨rfl, rfl⟩

theorem chain_no_incl (fl : String → String) (ids : List String) :
    (chainProc fl ids).nodes.filter (·.kind == .incl) = [] := by
  have : (Kind.start == Kind.incl) = false := by decide
  simp only [chainProc, List.filter, this]
  exact chainNodes_no_incl fl ids "s"

theorem chainNodes_no_start (fl : String → String) : ∀ (ids : List String) (prev : String),
    (chainNodes fl prev ids).filter (fun n => n.kind == .start && n.parent == "-") = []
  | [], _ => by
    have : (Kind.end_ == Kind.start) = false := by decide
    simp [chainNodes, List.filter, this]
  | a :: rest, _ => by
    have : (Kind.task == Kind.start) = false := by decide
    simp only [chainNodes, List.filter, this, Bool.false_and]
    exact chainNodes_no_start fl rest a

theorem chain_ids_nodup (fl : String → String) (ids : List String) (h : Wf fl ids) :
    ((chainProc fl ids).nodes.map (·.id)).Nodup := by
  have h1 := List.nodup_cons.mp h.nodup
  have h2 := List.nodup_cons.mp h1.2
  show ("s" :: (chainNodes fl "s" ids).map (·.id)).Nodup
  rw [chainNodes_ids]
  refine List.nodup_cons.mpr ⟨fun hm => ?_, List.nodup_append.mpr ⟨h2.2, by simp, fun x hx y hy e => ?_⟩⟩
  · rcases List.mem_append.mp hm with hm | hm
    · exact h1.1 (List.mem_cons_of_mem _ hm)
    · exact h1.1 (List.mem_singleton.mp hm ▸ List.mem_cons_self ..)
  · exact h2.1 (by rw [List.mem_singleton.mp hy] at e; exact e ▸ hx)

theorem chain_node_start (fl : String → String) (ids : List String) :
    (chainProc fl ids).node? "s" = some { id := "s", kind := .start, ins := [], outs := [fl "s"] } := by
  simp [chainProc, Proc.node?]

theorem chain_node_task (fl : String → String) (pre : List String) (a : String) (post : List String)
    (h : Wf fl (pre ++ a :: post)) :
    ∃ q, (chainProc fl (pre ++ a :: post)).node? a = some { id := a, kind := .task, ins := [fl q], outs := [fl a] } :=
  (mem_task fl a post pre "s").imp fun q hq =>
    find?_of_mem_nodup (fun n : Node => n.id) _ { id := a, kind := .task, ins := [fl q], outs := [fl a] }
      (List.mem_cons_of_mem _ hq) (chain_ids_nodup fl _ h)

theorem chain_node_end (fl : String → String) (ids : List String) (h : Wf fl ids) :
    ∃ q, (chainProc fl ids).node? "e" = some { id := "e", kind := .end_, ins := [fl q], outs := [] } :=
  (mem_end fl ids "s").imp fun q hq =>
    find?_of_mem_nodup (fun n : Node => n.id) _ { id := "e", kind := .end_, ins := [fl q], outs := [] }
      (List.mem_cons_of_mem _ hq) (chain_ids_nodup fl _ h)

theorem wf_tail (fl : String → String) (ids : List String) (h : Wf fl ids) :
    ("s" :: ids).Nodup := by
  have hnd := h.nodup
  have := List.nodup_cons.mp hnd
  refine List.nodup_cons.mpr ⟨fun hm => this.1 (List.mem_cons_of_mem _ hm), (List.nodup_cons.mp this.2).2⟩

theorem chain_flow_start (fl : String → String) (ids : List String) :
    (chainProc fl ids).flow? (fl "s") =
      some { id := fl "s", src := "s", dst := (ids.head?).getD "e", cond := .none } := by
  simpa [chainProc, Proc.flow?] using find_flow fl ids "s"

theorem chain_flow_task (fl : String → String) (pre : List String) (a : String) (post : List String)
    (h : Wf fl (pre ++ a :: post)) :
    (chainProc fl (pre ++ a :: post)).flow? (fl a) =
      some { id := fl a, src := a, dst := (post.head?).getD "e", cond := .none } := by
  simpa [chainProc, Proc.flow?] using find_flow_later fl pre "s" a post (wf_tail fl _ h) h.inj

/-- the state while the chain's token waits at activity `a`: it is the only pending request (first occurrence), and none
of the activities still ahead has been requested before -/
structure AtTask (s : St) (a : String) (ahead : List String) : Prop where
  pending : s.pending = [(⟨1, a⟩, 1)]
  subs : s.subs = []
  ig : s.ig = []
  fresh : ∀ x ∈ ahead, s.occ.find? (·.1 == x) = none

theorem find_occ_after_bump (occ : List (String × Nat)) (b x : String) (k : Nat) (hne : x ≠ b)
    (h : occ.find? (·.1 == x) = none) : ((occ.filter (·.1 != b)) ++ [(b, k)]).find? (·.1 == x) = none := by
  rw [List.find?_eq_none] at h ⊢
  intro q hq
  rcases List.mem_append.mp hq with h1 | h1
  · exact h q (List.mem_filter.mp h1).1
  · have : q = (b, k) := by simpa using h1
    subst this
    simpa using fun e : b = x => hne e.symm

theorem reach_task (cfg : Cfg) (p : Proc) (s : St) (b : String) (nb : Node) (ahead : List String) (fuel : Nat)
    (hno : p.nodes.filter (·.kind == .incl) = [])
    (hb : p.node? b = some nb) (hk : nb.kind = .task) (hid : nb.id = b)
    (hp : s.pending = []) (hs : s.subs = []) (hi : s.ig = [])
    (hfresh : ∀ x ∈ b :: ahead, s.occ.find? (·.1 == x) = none) (hnd : (b :: ahead).Nodup) :
    (runWork cfg p (fuel + 2) [⟨1, b⟩] s).obs = s.obs ++ [.req b] ∧
    AtTask (runWork cfg p (fuel + 2) [⟨1, b⟩] s) b ahead := by
  rw [runWork_parks cfg p fuel s _ ⟨1, b⟩ hno (Lemmas.Engine.arrive_task_eq hb hk)
    (by simp only [St.emit, bumpOcc]; exact hs) (by simp only [St.emit, bumpOcc]; exact hi), hid]
  unfold bumpOcc St.emit
  rw [hfresh b (List.mem_cons_self ..), hp]
  refine ⟨rfl, rfl, hs, hi, fun x hx => ?_⟩
  have hne : x ≠ b := fun e => (List.nodup_cons.mp hnd).1 (e ▸ hx)
  exact find_occ_after_bump s.occ b x _ hne (hfresh x (List.mem_cons_of_mem _ hx))

theorem answer_single (cfg : Cfg) (p : Proc) (s : St) (t : Tok) (j : Nat) (n : Node) (f : String) (sf : SFlow)
    (r : List (String × Int)) (hp : s.pending = [(t, j)]) (hn : p.node? t.node = some n) (ho : n.outs = [f])
    (hf : p.flow? f = some sf) (hc : sf.cond = .none) :
    answer cfg p s t.node j (.ok r) = runWork cfg p (fuelFor p) [{ t with node := sf.dst }]
      (({ s with obs := [], pending := [], vars := applyDeclared n s.vars r } : St).recordFlow p t.node [t.fid]) := by
  have hfind : (({ s with obs := [] } : St).pending.find? (fun q => q.1.node == t.node && q.2 == j)) = some (t, j) := by
    simp [hp]
  unfold answer
  simp only [hfind, hn, ho]
  rw [leave_single cfg p _ t f sf hf hc]
  simp [hp]

def runChain (cfg : Cfg) (p : Proc) : St → List (String × List (String × Int)) → List (List Obs)
  | _, [] => []
  | s, (a, r) :: rest => (answer cfg p s a 1 (.ok r)).obs :: runChain cfg p (answer cfg p s a 1 (.ok r)) rest

/-- what BPMN prescribes for the chain: after the answer of an activity the next one is requested, after the last
one the end event is reached -/
def expected : List String → List (List Obs)
  | [] => []
  | [_] => [[.complete "e"]]
  | _ :: b :: rest => [.req b] :: expected (b :: rest)

theorem fuel_split (p : Proc) : ∃ k, fuelFor p = k + 3 := ⟨fuelFor p - 3, by unfold fuelFor; omega⟩

theorem answer_at (cfg : Cfg) (fl : String → String) (pre : List String) (a : String) (post : List String) (s : St)
    (r : List (String × Int)) (hwf : Wf fl (pre ++ a :: post)) (hat : AtTask s a post) :
    ∃ k, answer cfg (chainProc fl (pre ++ a :: post)) s a 1 (.ok r) =
      runWork cfg (chainProc fl (pre ++ a :: post)) (k + 2) [⟨1, (post.head?).getD "e"⟩]
        (({ s with obs := [], pending := [] } : St).recordFlow (chainProc fl (pre ++ a :: post)) a [1]) := by
  obtain ⟨q, hn⟩ := chain_node_task fl pre a post hwf
  obtain ⟨k, hk⟩ := fuel_split (chainProc fl (pre ++ a :: post))
  refine ⟨k + 1, ?_⟩
  rw [answer_single cfg _ s ⟨1, a⟩ 1 _ (fl a) _ r hat.pending hn rfl (chain_flow_task fl pre a post hwf) rfl, hk]
  rfl

/-- **Induction along the chain.** With the token waiting at `a` (the activities `pre` behind it, `post` ahead),
answering the activities in order produces exactly the prescribed observations. -/
theorem chain_steps (cfg : Cfg) (fl : String → String) : ∀ (post pre : List String) (a : String) (s : St)
    (rs : List (List (String × Int))),
    Wf fl (pre ++ a :: post) → rs.length = (a :: post).length →
    AtTask s a post →
    runChain cfg (chainProc fl (pre ++ a :: post)) s ((a :: post).zip rs) = expected (a :: post)
  | _, _, _, _, [], _, hlen, _ => by cases hlen
  | [], pre, a, s, r :: rs', hwf, _, hat => by
    obtain ⟨k, hk⟩ := answer_at cfg fl pre a [] s r hwf hat
    obtain ⟨q', hne⟩ := chain_node_end fl (pre ++ [a]) hwf
    have hend := (runWork_end cfg (chainProc fl (pre ++ [a])) k
      (({ s with obs := [], pending := [] } : St).recordFlow (chainProc fl (pre ++ [a])) a [1]) ⟨1, "e"⟩ _
      (chain_no_incl fl _) hat.subs hat.ig hne rfl).1
    simp only [List.zip_cons_cons, List.zip_nil_left, runChain, expected]
    rw [hk]
    exact congrArg (fun o => [o]) hend
  | b :: post, pre, a, s, r :: rs', hwf, hlen, hat => by
    have hwf' : Wf fl ((pre ++ [a]) ++ b :: post) := by simpa using hwf
    obtain ⟨q', hnb⟩ := chain_node_task fl (pre ++ [a]) b post hwf'
    obtain ⟨k, hk⟩ := answer_at cfg fl pre a (b :: post) s r hwf hat
    simp only [List.head?_cons, Option.getD_some] at hk
    have hnd : (b :: post).Nodup := by
      have h2 : (pre ++ a :: b :: post).Nodup := (List.nodup_cons.mp (wf_tail fl _ hwf)).2
      exact (List.nodup_cons.mp (List.nodup_append.mp h2).2.1).2
    obtain ⟨hobs, hat'⟩ := reach_task cfg (chainProc fl (pre ++ a :: b :: post))
      (({ s with obs := [], pending := [] } : St).recordFlow (chainProc fl (pre ++ a :: b :: post)) a [1]) b _ post k
      (chain_no_incl fl _) (by simpa using hnb) rfl rfl rfl hat.subs hat.ig hat.fresh hnd
    simp only [List.zip_cons_cons, runChain, expected]
    rw [hk, hobs]
    exact congrArg _ (by simpa using chain_steps cfg fl post (pre ++ [a]) b _ rs' hwf' (Nat.succ.inj hlen) hat')

theorem chain_start (cfg : Cfg) (fl : String → String) (a : String) (post : List String) (vars : Vars)
    (hwf : Wf fl (a :: post)) :
    (start cfg (chainProc fl (a :: post)) vars).obs = [.req a] ∧
    AtTask (start cfg (chainProc fl (a :: post)) vars) a post := by
  have hno := chain_no_incl fl (a :: post)
  have hstarts : (chainProc fl (a :: post)).nodes.filter (fun n => n.kind == .start && n.parent == "-") =
      [{ id := "s", kind := .start, ins := [], outs := [fl "s"] }] := by
    have : ((Kind.start == Kind.start) && (("-" : String) == "-")) = true := by decide
    simp only [chainProc, List.filter, this]
    rw [chainNodes_no_start fl (a :: post) "s"]
  obtain ⟨q, hn⟩ := chain_node_task fl [] a post (by simpa using hwf)
  obtain ⟨k, hk⟩ := fuel_split (chainProc fl (a :: post))
  -- the token leaves the start event for the first activity
  have hrun : start cfg (chainProc fl (a :: post)) vars =
      runWork cfg (chainProc fl (a :: post)) (k + 2) [⟨1, a⟩]
        (({ vars := vars, nextFid := 2, activated := ["s"] } : St).recordFlow (chainProc fl (a :: post)) "s" [1]) := by
    unfold start
    simp only [hstarts, spawnStarts, List.foldl, List.nil_append, hk]
    rw [Lemmas.Engine.runWork_cons cfg hno, Lemmas.Engine.arrive_start_eq (chain_node_start fl (a :: post)) rfl]
    simp only [Lemmas.Engine.leave, List.contains_nil, Bool.false_eq_true, if_false,
      leave_single cfg _ _ ⟨1, "s"⟩ (fl "s") _ (chain_flow_start fl (a :: post)) rfl, List.nil_append]
    rfl
  rw [hrun]
  exact reach_task cfg _ _ a _ post k hno (by simpa using hn) rfl rfl rfl rfl rfl (fun _ _ => rfl)
    (List.nodup_cons.mp (wf_tail fl _ hwf)).2

/-- **C01 on chains (block-level, any length).** For every chain of `n ≥ 1` activities with pairwise distinct ids, every
configuration of the code's deviation switches and scheduling variants, every initial data and whatever the answers
carry: `StartAll` requests the first activity; the answer of each activity is followed by exactly one request, of the
next activity in insertion order; the answer of the last one by the end event — no activity is skipped, none is
requested twice, nothing else happens. -/
theorem chain_conformance (cfg : Cfg) (fl : String → String) (a : String) (post : List String) (vars : Vars)
    (rs : List (List (String × Int))) (hwf : Wf fl (a :: post)) (hlen : rs.length = (a :: post).length) :
    (start cfg (chainProc fl (a :: post)) vars).obs = [.req a] ∧
    runChain cfg (chainProc fl (a :: post)) (start cfg (chainProc fl (a :: post)) vars) ((a :: post).zip rs) =
      expected (a :: post) := by
  obtain ⟨h1, h2⟩ := chain_start cfg fl a post vars hwf
  exact ⟨h1, chain_steps cfg fl post [] a _ rs (by simpa using hwf) hlen h2⟩

/-- the same run under the token game (`Cfg.ideal`) — so on chains the code's configuration and BPMN agree, step by step -/
theorem chain_matches_token_game (cfg : Cfg) (fl : String → String) (a : String) (post : List String) (vars : Vars)
    (rs : List (List (String × Int))) (hwf : Wf fl (a :: post)) (hlen : rs.length = (a :: post).length) :
    runChain cfg (chainProc fl (a :: post)) (start cfg (chainProc fl (a :: post)) vars) ((a :: post).zip rs) =
    runChain Cfg.ideal (chainProc fl (a :: post)) (start Cfg.ideal (chainProc fl (a :: post)) vars) ((a :: post).zip rs) := by
  rw [(chain_conformance cfg fl a post vars rs hwf hlen).2, (chain_conformance Cfg.ideal fl a post vars rs hwf hlen).2]

/-- non-vacuity: three activities, flows named after their source -/
example : Wf (fun x => "f_" ++ x) ["A", "B", "C"] := ⟨by decide, by decide⟩
example : runChain Cfg.ideal (chainProc (fun x => "f_" ++ x) ["A", "B", "C"])
    (start Cfg.ideal (chainProc (fun x => "f_" ++ x) ["A", "B", "C"]) []) [("A", []), ("B", []), ("C", [])] =
    [[.req "B"], [.req "C"], [.complete "e"]] := by decide +kernel

end Bpmn.Props.C01Chain
