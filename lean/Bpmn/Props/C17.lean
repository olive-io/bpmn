import Bpmn.Model.Lockset
/-!
# C17 — what Lean carries: the lock-set discipline implies race freedom (all traces, unbounded)

A data race is a property of real executions under Go's memory model; no theorem about a model exhibits
one. What is proved here is the logic that is meant to PREVENT races, for every well-formed interleaving (any number
of threads, locks, locations, any length): conflicting accesses under a common lock, one side in write mode, are ordered
by happens-before — a release of that lock by the first thread followed by an acquisition by the second lies strictly
between them (`lockset_sound`); then the access-local form per location (`policy_sound`) and the form the regenerated
lock table feeds (`table_sound`).

`C17_statement` keeps the full property visible; it is NOT proved (see `C17_holds` for what is).
-/
namespace Bpmn.Props.C17
open Bpmn.Model.Lockset

theorem st_succ (τ : List Ev) (n : Nat) :
    st τ (n + 1) = match τ[n]? with
      | some e => step (st τ n) e
      | none => st τ n := by
  unfold st
  rw [List.take_add_one, List.foldl_append]
  cases τ[n]? <;> simp [Option.toList]

theorem ok_acq {h : Held} {t : Tid} {m : LockId} {a : Mode} (hok : ok h (.acq t m a))
    {e : LockId × Tid × Mode} (he : e ∈ h) (hm : e.1 = m) : ¬ (e.2.2 = .w ∨ a = .w) := by
  cases a with
  | w => exact fun _ => hok e he hm
  | r => exact fun hw => hw.elim (fun hw => hok e he ⟨hm, hw⟩) nofun

/-- a write-mode holder of a lock is its only holder -/
def Excl (h : Held) : Prop :=
  ∀ p ∈ h, ∀ q ∈ h, p.1 = q.1 → p.2.2 = .w → p = q

theorem excl_step (h : Held) (e : Ev) (hx : Excl h) (hok : ok h e) : Excl (step h e) := by
  cases e with
  | acq t m a =>
    intro p hp q hq hpq hw
    rcases List.mem_cons.1 hp with rfl | hp <;> rcases List.mem_cons.1 hq with rfl | hq
    · rfl
    · exact absurd (.inr hw) (ok_acq hok hq hpq.symm)
    · exact absurd (.inl hw) (ok_acq hok hp hpq)
    · exact hx p hp q hq hpq hw
  | rel t m a => exact fun p hp q hq => hx p (List.mem_of_mem_erase hp) q (List.mem_of_mem_erase hq)
  | fork t c => exact hx
  | acc t x w a => exact hx

theorem excl_st (τ : List Ev) (wf : WF τ) : ∀ n, Excl (st τ n) := by
  intro n
  induction n with
  | zero => exact fun p hp => absurd hp List.not_mem_nil
  | succ n ih =>
    rw [st_succ]
    by_cases hn : n < τ.length
    · rw [List.getElem?_eq_getElem hn]
      exact excl_step _ _ ih (wf n hn)
    · rw [List.getElem?_eq_none (Nat.le_of_not_lt hn)]
      exact ih

theorem lost_by_step {h : Held} {e : Ev} {x : LockId × Tid × Mode} (hx : x ∈ h) (hx' : x ∉ step h e) :
    e = .rel x.2.1 x.1 x.2.2 := by
  cases e with
  | acq t m a => exact absurd (List.mem_cons_of_mem _ hx) hx'
  | fork t c => exact absurd hx hx'
  | acc t y w a => exact absurd hx hx'
  | rel t m a =>
    have : x = (m, t, a) := Decidable.byContradiction fun hne => hx' ((List.mem_erase_of_ne hne).2 hx)
    rw [this]

theorem gained_by_step {h : Held} {e : Ev} {x : LockId × Tid × Mode} (hx : x ∉ h) (hx' : x ∈ step h e) :
    e = .acq x.2.1 x.1 x.2.2 := by
  cases e with
  | rel t m a => exact absurd (List.mem_of_mem_erase hx') hx
  | fork t c => exact absurd hx' hx
  | acc t y w a => exact absurd hx' hx
  | acq t m a =>
    rcases List.mem_cons.1 hx' with h | h
    · rw [h]
    · exact absurd h hx

theorem event_between (τ : List Ev) (P : Held → Prop) {i j : Nat} (hij : i ≤ j) (hi : P (st τ i))
    (hj : ¬ P (st τ j)) : ∃ k e, i ≤ k ∧ k < j ∧ τ[k]? = some e ∧ P (st τ k) ∧ ¬ P (step (st τ k) e) := by
  induction hij with
  | refl => exact absurd hi hj
  | @step j hij ih =>
    by_cases h : P (st τ j)
    · -- the last step is the one
      rw [st_succ] at hj
      cases hev : τ[j]? with
      | none => rw [hev] at hj; exact absurd h hj
      | some e => rw [hev] at hj; exact ⟨j, e, hij, Nat.lt_succ_self j, hev, h, hj⟩
    · obtain ⟨k, e, h1, h2, h3⟩ := ih h
      exact ⟨k, e, h1, Nat.lt_succ_of_lt h2, h3⟩

theorem rel_between (τ : List Ev) (x : LockId × Tid × Mode) {i j : Nat} (hij : i ≤ j)
    (hi : x ∈ st τ i) (hj : x ∉ st τ j) : ∃ k, i ≤ k ∧ k < j ∧ τ[k]? = some (.rel x.2.1 x.1 x.2.2) := by
  obtain ⟨k, e, h1, h2, hev, hk, hk'⟩ := event_between τ (x ∈ ·) hij hi hj
  exact ⟨k, h1, h2, lost_by_step hk hk' ▸ hev⟩

theorem acq_between (τ : List Ev) (x : LockId × Tid × Mode) {i j : Nat} (hij : i ≤ j)
    (hi : x ∉ st τ i) (hj : x ∈ st τ j) : ∃ l, i ≤ l ∧ l < j ∧ τ[l]? = some (.acq x.2.1 x.1 x.2.2) := by
  obtain ⟨l, e, h1, h2, hev, hl, hl'⟩ := event_between τ (x ∉ ·) hij hi (fun h => h hj)
  exact ⟨l, h1, h2, gained_by_step hl (Decidable.not_not.1 hl') ▸ hev⟩

theorem conflict_acc {e e' : Ev} (h : conflict e e') :
    ∃ t x w a t' w' a', e = .acc t x w a ∧ e' = .acc t' x w' a' ∧
      t ≠ t' ∧ (w = true ∨ w' = true) ∧ ¬ (a = true ∧ a' = true) := by
  cases e <;> cases e' <;> try exact False.elim h
  obtain ⟨hne, rfl, hw, hat⟩ := h
  exact ⟨_, _, _, _, _, _, _, rfl, rfl, hne, hw, hat⟩

/-- **Lock-set soundness.** In every well-formed interleaving, if every pair of conflicting accesses is
performed under a common lock (at least one side holding it in write mode), then every conflicting pair is
ordered by happens-before. Unbounded: any trace, any number of threads / locks / locations. -/
theorem lockset_sound (τ : List Ev) (wf : WF τ) (disc : Discipline τ) : RaceFree τ := by
  intro i j e e' hij hi hj hc
  obtain ⟨hil, hie⟩ := List.getElem?_eq_some_iff.1 hi
  obtain ⟨hjl, hje⟩ := List.getElem?_eq_some_iff.1 hj
  have hg := disc i hil j hjl hij (by rw [hie, hje]; exact hc)
  rw [hie, hje] at hg
  obtain ⟨t, x, w, a, t', w', a', rfl, rfl, hne, -, -⟩ := conflict_acc hc
  obtain ⟨⟨m, pt, pa⟩, hp, ⟨m', qt, qa⟩, hq, hm, hpt, hqt, hmode⟩ := hg
  simp only [Ev.tid] at hm hpt hqt hmode
  subst hm hpt hqt
  by_cases hin : (m, qt, qa) ∈ st τ i
  · -- both hold the lock at position i, one of them in write mode: then they are the same entry
    have hex := excl_st τ wf i
    rcases hmode with hw | hw
    · exact absurd (congrArg (·.2.1) (hex _ hp _ hin rfl hw)) hne
    · exact absurd (congrArg (·.2.1) (hex _ hin _ hp rfl hw)).symm hne
  · -- the second thread acquires the lock at some l in [i, j)
    obtain ⟨l, hil', hlj, hl⟩ := acq_between τ (m, qt, qa) (Nat.le_of_lt hij) hin hq
    obtain ⟨hll, hle⟩ := List.getElem?_eq_some_iff.1 hl
    have hokl := wf l hll
    rw [hle] at hokl
    -- at that acquisition the first thread no longer holds it: it released it at some k in [i, l)
    have hnot : (m, pt, pa) ∉ st τ l := fun hmem => ok_acq hokl hmem rfl hmode
    obtain ⟨k, hik, hkl, hk⟩ := rel_between τ (m, pt, pa) hil' hp hnot
    have hki : k ≠ i := by
      intro h; subst h; rw [hi] at hk; cases hk
    exact .trans (.po (by omega) hi hk rfl) (.trans (.sw (by omega) hk hl hmode) (.po (by omega) hl hj rfl))

theorem discipline_of_acc (τ : List Ev)
    (H : ∀ i j t x w a t' w' a', τ[i]? = some (.acc t x w a) → τ[j]? = some (.acc t' x w' a') →
      (w = true ∨ w' = true) → ¬ (a = true ∧ a' = true) → t ≠ t' → Guarded τ i j t t') : Discipline τ := by
  intro i hi j hj _ hc
  obtain ⟨t, x, w, a, t', w', a', e1, e2, hne, hw, hat⟩ := conflict_acc hc
  rw [e1, e2]
  exact H i j t x w a t' w' a' (e1 ▸ List.getElem?_eq_getElem hi) (e2 ▸ List.getElem?_eq_getElem hj) hw hat hne

/-- every access event respects the policy of its location -/
def Respects (pol : Loc → Policy) (τ : List Ev) : Prop :=
  ∀ n t x w a, τ[n]? = some (.acc t x w a) → respects τ n (pol x) (.acc t x w a)

theorem holds_of_guardedBy {τ : List Ev} {n : Nat} {m : LockId} {t : Tid} {x : Loc} {w a : Bool}
    (h : respects τ n (.guardedBy m) (.acc t x w a)) : ∃ b, (m, t, b) ∈ st τ n ∧ (w = true → b = .w) := by
  cases w with
  | true => exact ⟨.w, h.1 rfl, fun _ => rfl⟩
  | false =>
    obtain ⟨b, hb⟩ := h.2 rfl
    exact ⟨b, hb, nofun⟩

theorem policy_discipline (pol : Loc → Policy) (τ : List Ev) (hr : Respects pol τ) : Discipline τ := by
  refine discipline_of_acc τ fun i j t x w a t' w' a' hi hj hw hat hne => ?_
  have r1 := hr i t x w a hi
  have r2 := hr j t' x w' a' hj
  generalize pol x = p at r1 r2
  cases p with
  | owned t0 => exact absurd (r1.trans r2.symm) hne
  | atomicOnly => exact absurd ⟨r1, r2⟩ hat
  | guardedBy m =>
    obtain ⟨b, h1, hb⟩ := holds_of_guardedBy r1
    obtain ⟨b', h2, hb'⟩ := holds_of_guardedBy r2
    exact ⟨_, h1, _, h2, rfl, rfl, rfl, hw.imp hb hb'⟩

/-- **Policy form.** If each location is owned by one thread, or guarded by one lock (writers hold it in write
mode, readers in any mode), or only accessed through sync/atomic, every well-formed interleaving is race free. -/
theorem policy_sound (pol : Loc → Policy) (τ : List Ev) (wf : WF τ) (hr : Respects pol τ) : RaceFree τ :=
  lockset_sound τ wf (policy_discipline pol τ hr)

/-- every access event of the interleaving is an execution of one of the listed sites -/
def Covered (rows : List Row) (τ : List Ev) : Prop :=
  ∀ n t x w a, τ[n]? = some (.acc t x w a) → ∃ r ∈ rows, r.covers τ n (.acc t x w a)

theorem table_discipline (rows : List Row) (hok : tableOk rows = true) (τ : List Ev)
    (hcov : Covered rows τ) : Discipline τ := by
  refine discipline_of_acc τ fun i j t x w a t' w' a' hi hj hw hat hne => ?_
  obtain ⟨o, f⟩ := x
  obtain ⟨r1, hr1, f1, w1, a1, hl1⟩ := hcov i t (o, f) w a hi
  obtain ⟨r2, hr2, f2, w2, a2, hl2⟩ := hcov j t' (o, f) w' a' hj
  have hp : pairOk r1 r2 = true := List.all_eq_true.1 (List.all_eq_true.1 hok r1 hr1) r2 hr2
  simp only [pairOk, Bool.or_eq_true, Bool.and_eq_true, bne_iff_ne, ne_eq, Bool.not_eq_true', List.any_eq_true,
    beq_iff_eq] at hp
  rcases hp with ((hp | hp) | hp) | hp
  · exact absurd (f1.trans f2.symm) hp
  · rw [w1, w2] at hp
    rcases hw with hw | hw
    · rw [hw] at hp; cases hp.1
    · rw [hw] at hp; cases hp.2
  · rw [a1, a2] at hp; exact absurd hp hat
  · obtain ⟨p, hpm, q, hqm, hname, hmode⟩ := hp
    have h2 := hl2 q hqm
    rw [← hname] at h2
    exact ⟨_, hl1 p hpm, _, h2, rfl, rfl, rfl, hmode⟩

/-- **Table form.** If the pairwise check holds for a list of access sites and every access event of a
well-formed interleaving is an execution of one of those sites, the interleaving is race free. -/
theorem table_sound (rows : List Row) (hok : tableOk rows = true) (τ : List Ev) (wf : WF τ)
    (hcov : Covered rows τ) : RaceFree τ :=
  lockset_sound τ wf (table_discipline rows hok τ hcov)

theorem failing_eq_nil_iff (rows : List Row) : failing rows = [] ↔ tableOk rows = true := by
  simp only [failing, tableOk, List.map_eq_nil_iff, List.filter_eq_nil_iff, List.all_eq_true,
    Bool.not_eq_true', Bool.not_eq_false]

/-- What C17 asks, kept visible. `Exec` would have to be the set of interleavings the real engine can produce
under concurrent use; no such semantics of the Go program is defined here, so this statement is NOT proved
(and cannot be by this technique: a data race is a property of real executions). The third conjunct of the
property (outcome allowed by the sequential token semantics) is checked dynamically through the C01 judge. -/
def C17_statement (Exec : List Ev → Prop) : Prop :=
  ∀ τ, Exec τ → WF τ ∧ RaceFree τ

/-- What IS proved: for any set of interleavings that respect the lock semantics and whose accesses are
executions of a site table passing the pairwise check, the race-freedom part of `C17_statement` holds. -/
theorem C17_holds (rows : List Row) (hok : tableOk rows = true) (Exec : List Ev → Prop)
    (hwf : ∀ τ, Exec τ → WF τ) (hcov : ∀ τ, Exec τ → Covered rows τ) : C17_statement Exec :=
  fun τ h => ⟨hwf τ h, table_sound rows hok τ (hwf τ h) (hcov τ h)⟩

/-- a writer under `Lock`, then a reader under `RLock`, of the same location by different threads -/
def exTrace : List Ev :=
  [.acq 1 (7, "mu") .w, .acc 1 (7, "items") true false, .rel 1 (7, "mu") .w,
   .acq 2 (7, "mu") .r, .acc 2 (7, "items") false false, .rel 2 (7, "mu") .r]

theorem exTrace_wf : WF exTrace := by decide
theorem exTrace_discipline : Discipline exTrace := by decide

example : WF exTrace := exTrace_wf
example : Discipline exTrace := exTrace_discipline
example : conflict exTrace[1] exTrace[4] := by decide
/-- the hypotheses of `lockset_sound` are satisfiable by a trace that does contain a conflicting pair -/
theorem exTrace_racefree : RaceFree exTrace := lockset_sound exTrace exTrace_wf exTrace_discipline

def exRows : List Row :=
  [{ field := "items", fn := "Put", write := true, atomic := false, fresh := false, held := [("mu", .w)] },
   { field := "items", fn := "Get", write := false, atomic := false, fresh := false, held := [("mu", .r)] }]

example : tableOk exRows = true := by decide

theorem exTrace_acc {P : Nat → Tid → Loc → Bool → Bool → Prop} (h1 : P 1 1 (7, "items") true false)
    (h4 : P 4 2 (7, "items") false false) : ∀ n t x w a, exTrace[n]? = some (.acc t x w a) → P n t x w a := by
  intro n t x w a h
  match n, h with
  | 1, h => cases h; exact h1
  | 4, h => cases h; exact h4
  | 0, h | 2, h | 3, h | 5, h => cases h
  | n + 6, h => simp [exTrace] at h

theorem exTrace_covered : Covered exRows exTrace :=
  exTrace_acc ⟨_, .head _, rfl, rfl, rfl, by decide⟩ ⟨_, .tail _ (.head _), rfl, rfl, rfl, by decide⟩

example : Covered exRows exTrace := exTrace_covered

/-- the same two accesses without the lock: a well-formed trace that is NOT race free, so `RaceFree` is not
trivially true and the `Discipline` hypothesis cannot be dropped -/
def exRacy : List Ev := [.acc 1 (7, "items") true false, .acc 2 (7, "items") false false]

theorem exRacy_wf : WF exRacy := by decide

theorem exRacy_no_hb : ∀ i j, HB exRacy i j → False := by
  intro i j h
  induction h with
  | @po i j e e' hij hi hj ht =>
    have hj2 : j < 2 := (List.getElem?_eq_some_iff.1 hj).1
    obtain ⟨rfl, rfl⟩ : i = 0 ∧ j = 1 := by omega
    cases hi; cases hj; cases ht
  | sw _ hi => nomatch List.mem_of_getElem? hi
  | go _ hi => nomatch List.mem_of_getElem? hi
  | trans _ _ ih _ => exact ih

theorem exRacy_races : ¬ RaceFree exRacy := by
  intro h
  exact exRacy_no_hb 0 1 (h 0 1 _ _ (by decide) rfl rfl (by decide))

/-- `policy_sound`'s hypothesis is satisfiable: the location is guarded by the lock -/
example : Respects (fun _ => Policy.guardedBy (7, "mu")) exTrace :=
  exTrace_acc ⟨fun _ => by decide, nofun⟩ ⟨nofun, fun _ => ⟨.r, by decide⟩⟩

/-- `C17_holds`'s hypotheses are satisfiable by a non-empty set of executions -/
example : C17_statement (fun τ => τ = exTrace) :=
  C17_holds exRows (by decide) _ (fun _ h => h ▸ exTrace_wf) (fun _ h => h ▸ exTrace_covered)

end Bpmn.Props.C17
