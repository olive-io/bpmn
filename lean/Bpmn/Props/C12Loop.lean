import Bpmn.Props.C12Nest
import Bpmn.Lemmas.TaskTrace
/-!
# C12 — a sub-process entered again and again in a loop, any number of times

"… and when the sub-process is entered repeatedly in a loop." The program

    s → M → U[ us → B → ue ] → X ;  X → M while c < N ;  X → e otherwise          (B writes c)

for EVERY bound `N`, every round number and whatever values the answers carry: one round from any state in which the loop
stands at its `j`-th round (`LoopAt j`, `loop_step`), any number of rounds (`loop_rounds`), a whole run from `start`
(`loop_run`). The step lemmas are those of `Props/C12Nest` (a calm state followed on its `View`).

This is the token game (`Cfg.ideal`); the code's deviation on re-entry (`subStartSticky`, D10r, repaired) is the witness
`Props/C12.C12_counterexample_reentry`. `Props/C12Steps.loop_run_current` carries `loop_run` to the configuration extracted
from /repo.
-/
namespace Bpmn.Props.C12Loop
open Bpmn.Model Bpmn.Model.Engine Bpmn.Props.C12Nest

def loopProc (N : Int) : Proc :=
  { nodes := [
      { id := "s", kind := .start, ins := [], outs := ["f0"] },
      { id := "M", kind := .xor, ins := ["f0", "f4"], outs := ["f1"] },
      { id := "U", kind := .sub, ins := ["f1"], outs := ["f2"] },
      { id := "us", kind := .start, ins := [], outs := ["g0"], parent := "U" },
      { id := "B", kind := .task, ins := ["g0"], outs := ["g1"], parent := "U", results := ["c"], hasResults := true },
      { id := "ue", kind := .end_, ins := ["g1"], outs := [], parent := "U" },
      { id := "X", kind := .xor, ins := ["f2"], outs := ["f4", "f5"], dflt := some "f5" },
      { id := "e", kind := .end_, ins := ["f5"], outs := [] }],
    flows := [
      { id := "f0", src := "s", dst := "M", cond := .none }, { id := "f1", src := "M", dst := "U", cond := .none },
      { id := "f2", src := "U", dst := "X", cond := .none }, { id := "f4", src := "X", dst := "M", cond := .lt "c" N },
      { id := "f5", src := "X", dst := "e", cond := .none },
      { id := "g0", src := "us", dst := "B", cond := .none }, { id := "g1", src := "B", dst := "ue", cond := .none }] }

theorem u_goes (N : Int) : Goes (loopProc N) "U" .sub "-" "X" := ⟨_, "f2", _, rfl, rfl, rfl, rfl, rfl, rfl, rfl, rfl⟩
theorem us_goes (N : Int) : Goes (loopProc N) "us" .start "U" "B" := ⟨_, "g0", _, rfl, rfl, rfl, rfl, rfl, rfl, rfl, rfl⟩
theorem b_goes (N : Int) : Goes (loopProc N) "B" .task "U" "ue" := ⟨_, "g1", _, rfl, rfl, rfl, rfl, rfl, rfl, rfl, rfl⟩
theorem s_goes (N : Int) : Goes (loopProc N) "s" .start "-" "M" := ⟨_, "f0", _, rfl, rfl, rfl, rfl, rfl, rfl, rfl, rfl⟩
theorem ue_end (N : Int) : IsEnd (loopProc N) "ue" "U" := ⟨_, rfl, rfl, rfl, rfl⟩
theorem e_end (N : Int) : IsEnd (loopProc N) "e" "-" := ⟨_, rfl, rfl, rfl, rfl⟩
theorem noIncl (N : Int) : (loopProc N).nodes.filter (·.kind == .incl) = [] := rfl
theorem starts (N : Int) : (loopProc N).nodes.filter (fun x => x.parent == "U" && x.kind == .start) =
    [{ id := "us", kind := .start, ins := [], outs := ["g0"], parent := "U" }] := rfl

/-- `200 * (8 nodes + 5)`; the numerals `2600 - k` below are what is left of it -/
theorem fuel_eq (N : Int) : fuelFor (loopProc N) = 2600 := rfl

section
variable {s : St} {v : View} {t : Tok} {fuel : Nat}

theorem run_M (N : Int) (hf : 1 ≤ fuel) (ht : t.node = "M") (ha : At s v) :
    ∃ s', runWork Cfg.ideal (loopProc N) fuel [t] s = runWork Cfg.ideal (loopProc N) (fuel - 1) [{ t with node := "U" }] s' ∧
      At s' v :=
  run_xor (n := { id := "M", kind := .xor, ins := ["f0", "f4"], outs := ["f1"] }) (fl := "f1") hf (by rw [ht]; rfl) rfl rfl rfl ha

theorem run_X (N : Int) (c : Int) (hf : 1 ≤ fuel) (ht : t.node = "X") (ha : At s v) (hv : v.vars.get "c" = some c) :
    ∃ s', runWork Cfg.ideal (loopProc N) fuel [t] s =
        runWork Cfg.ideal (loopProc N) (fuel - 1) [{ t with node := if c < N then "M" else "e" }] s' ∧ At s' v := by
  have hv' : s.vars.get "c" = some c := ha.vars ▸ hv
  have hn : (loopProc N).node? t.node = some { id := "X", kind := .xor, ins := ["f2"], outs := ["f4", "f5"], dflt := some "f5" } := by
    rw [ht]; rfl
  by_cases h : c < N
  · rw [if_pos h]
    exact run_xor (ev := [("f4", true)]) (fl := "f4") hf hn rfl
      (by simp [evalFlows, evalFlow, loopProc, Proc.flow?, Cond.eval, Cond.evalB, hv', h]) rfl ha
  · rw [if_neg h]
    exact run_xor (ev := [("f4", false)]) (fl := "f5") hf hn rfl
      (by simp [evalFlows, evalFlow, loopProc, Proc.flow?, Cond.eval, Cond.evalB, hv', h]) rfl ha

end

/-- the loop is at its `j`-th round: the parent token `u` is held in the sub-process node, the inner task is the only
pending request, for the `j`-th time -/
structure LoopAt (j : Nat) (s : St) (u : Tok) : Prop where
  calm : Calm s
  subs : s.subs = [u]
  unode : u.node = "U"
  pend : ∃ t, s.pending = [(t, j)] ∧ t.node = "B"
  occ : s.occ = [("B", j)]

theorem inScope_U_U (N : Int) : inScope (loopProc N) "U" "U" = false := rfl
theorem inScope_U_B (N : Int) : inScope (loopProc N) "U" "B" = true := rfl

/-- **Entering the sub-process from the merge.** No level is open, nothing is pending, the token stands at `M`: the sub-process
is entered — the token is held, a fresh token runs from the inner start event to the inner task, which is requested (its
occurrence counter goes from `jo` to `jo + 1`) — and nothing else happens. -/
theorem enter_from_M (N : Int) (fuel : Nat) (hf : 5 ≤ fuel) (a : St) (v : View) (u : Tok) (jo : Nat) (ha : At a v)
    (hs : v.subs = []) (hp : v.pending = []) (ho : bump v.occ "B" = (jo + 1, [("B", jo + 1)])) :
    (runWork Cfg.ideal (loopProc N) fuel [{ u with node := "M" }] a).obs = v.obs ++ [.req "B"] ∧
    LoopAt (jo + 1) (runWork Cfg.ideal (loopProc N) fuel [{ u with node := "M" }] a) { u with node := "U" } := by
  obtain ⟨a1, e1, h1⟩ := run_M N (fuel := fuel) (t := { u with node := "M" }) (by omega) rfl ha
  obtain ⟨a2, e2, h2⟩ := run_enter (fuel := fuel - 1) (by omega) (t := { u with node := "U" }) (u_goes N) (starts N) (us_goes N) h1
    (by rw [hs]; rfl)
  have h3 := run_task (noIncl N) (fuel := fuel - 1 - 2) (by omega) (t := { fid := v.nextFid, node := "B" }) (b_goes N) h2
    (by simp [View.done, View.live, View.request, hs, hp, inScope_U_B])
  rw [e1, e2]
  exact ⟨h3.obs, h3.1, h3.subs.trans (by rw [hs]; rfl), rfl,
    ⟨{ fid := v.nextFid, node := "B" }, h3.pending.trans (by simp [View.request, hp, ho]), rfl⟩, h3.occ.trans (by simp [View.request, ho])⟩

/-- **One round.** Answering the inner task with `c = v`: the inner end event completes, the sub-process returns — once —
and then, if `v < N`, the loop goes round: the sub-process is ENTERED AGAIN and its inner task requested again (the `j+1`-th
time); otherwise the end event is reached and nothing is left alive. -/
theorem loop_step (N : Int) (j : Nat) (s : St) (u : Tok) (h : LoopAt j s u) (v : Int) :
    (v < N → (answer Cfg.ideal (loopProc N) s "B" j (.ok [("c", v)])).obs = [.complete "ue", .req "B"] ∧
      LoopAt (j + 1) (answer Cfg.ideal (loopProc N) s "B" j (.ok [("c", v)])) u) ∧
    (¬ v < N → (answer Cfg.ideal (loopProc N) s "B" j (.ok [("c", v)])).obs = [.complete "ue", .complete "e"] ∧
      (answer Cfg.ideal (loopProc N) s "B" j (.ok [("c", v)])).topLive (loopProc N) = false ∧
      (answer Cfg.ideal (loopProc N) s "B" j (.ok [("c", v)])).subs = [] ∧
      (answer Cfg.ideal (loopProc N) s "B" j (.ok [("c", v)])).outOfScope = none) := by
  obtain ⟨hc, hs, hu, ⟨t, hp, ht⟩, ho⟩ := h
  obtain ⟨n, s1, hn, e1, h1⟩ := answer_ok (r := [("c", v)]) (ht ▸ b_goes N) ⟨hc, rfl⟩ hp
  rw [ht] at hn e1
  obtain rfl := Option.some.inj ((show (loopProc N).node? "B" = _ from rfl).symm.trans hn)
  obtain ⟨s2, e2, h2⟩ := run_return (noIncl N) (fuel := 2600) (by decide) (t := { t with node := "ue" }) (u := u) (ue_end N)
    (hu ▸ u_goes N) h1 (by simp [View.done, View.live, view, hs, hu, inScope_U_U])
  obtain ⟨s3, e3, h3⟩ := run_X N v (fuel := 2600 - 2) (t := { u with node := "X" }) (by decide) rfl h2
    (Bpmn.Lemmas.TaskTrace.get_set_eq _ _ _)
  rw [e1, fuel_eq, e2, e3]
  have hsub : (view s).subs.filter (· != u) = [] := by rw [show (view s).subs = [u] from hs]; simp
  constructor
  · intro hv
    rw [if_pos hv]
    obtain ⟨o, l⟩ := enter_from_M N (2600 - 2 - 1) (by decide) s3 _ { u with node := "X" } j h3 hsub rfl
      (by rw [show (view s).occ = [("B", j)] from ho]; rfl)
    rw [show ({ ({ ({ u with node := "X" } : Tok) with node := "M" } : Tok) with node := "U" } : Tok) = u from
      congrArg (Tok.mk u.fid) hu.symm] at l
    exact ⟨o, l⟩
  · intro hv
    rw [if_neg hv]
    have h4 := run_end (noIncl N) (fuel := 2600 - 2 - 1) (by decide) (t := { ({ u with node := "X" } : Tok) with node := "e" })
      (e_end N) h3 hsub
    exact ⟨h4.obs, (h4.live "-").trans (by simp [View.live, hsub]), h4.subs.trans hsub, h4.1.oos⟩

/-- answer the inner task round after round with the given values (round numbers from `j` on), at configuration `cfg`: the
observations of each round and the state reached -/
def roundsC (cfg : Cfg) (N : Int) : Nat → St → List Int → List (List Obs) × St
  | _, s, [] => ([], s)
  | j, s, v :: vs =>
    ((answer cfg (loopProc N) s "B" j (.ok [("c", v)])).obs ::
       (roundsC cfg N (j + 1) (answer cfg (loopProc N) s "B" j (.ok [("c", v)])) vs).1,
     (roundsC cfg N (j + 1) (answer cfg (loopProc N) s "B" j (.ok [("c", v)])) vs).2)

abbrev rounds (N : Int) := roundsC Cfg.ideal N

/-- **Any number of rounds.** Values below the bound keep the loop going: one request of the inner task per round. -/
theorem loop_rounds (N : Int) : ∀ (vs : List Int) (j : Nat) (s : St) (u : Tok), LoopAt j s u → (∀ v ∈ vs, v < N) →
    (rounds N j s vs).1 = vs.map (fun _ => [Obs.complete "ue", Obs.req "B"]) ∧ LoopAt (j + vs.length) (rounds N j s vs).2 u
  | [], j, s, u, h, _ => ⟨rfl, by simpa [rounds, roundsC] using h⟩
  | v :: vs, j, s, u, h, hv => by
    obtain ⟨o1, l1⟩ := (loop_step N j s u h v).1 (hv v (by simp))
    obtain ⟨o2, l2⟩ := loop_rounds N vs (j + 1) _ u l1 (fun w hw => hv w (by simp [hw]))
    refine ⟨by simp [rounds, roundsC, o1, o2], ?_⟩
    have : j + (v :: vs).length = j + 1 + vs.length := by simp; omega
    rw [this]
    simpa [rounds, roundsC] using l2

theorem loop_start (N : Int) (vars : Vars) :
    (start Cfg.ideal (loopProc N) vars).obs = [.req "B"] ∧ LoopAt 1 (start Cfg.ideal (loopProc N) vars) { fid := 1, node := "U" } := by
  obtain ⟨s1, e1, h1⟩ := start_eq (p := loopProc N) (vars := vars) rfl (s_goes N) (by rw [fuel_eq]; omega)
  rw [e1]
  exact enter_from_M N (2600 - 1) (by decide) s1 _ { fid := 1, node := "s" } 0 h1 rfl rfl rfl

/-- **A whole run.** `k` rounds with values below the bound, then one at or above it: the inner task is requested on start
and once more per round that stays in the loop — `k + 1` times in all, every activation of the sub-process runs its content —
and the last answer ends the instance. -/
theorem loop_run (N : Int) (vars : Vars) (vs : List Int) (last : Int) (hvs : ∀ v ∈ vs, v < N) (hlast : ¬ last < N) :
    (start Cfg.ideal (loopProc N) vars).obs = [.req "B"] ∧
    (rounds N 1 (start Cfg.ideal (loopProc N) vars) vs).1 = vs.map (fun _ => [Obs.complete "ue", Obs.req "B"]) ∧
    (answer Cfg.ideal (loopProc N) (rounds N 1 (start Cfg.ideal (loopProc N) vars) vs).2 "B" (1 + vs.length) (.ok [("c", last)])).obs =
      [.complete "ue", .complete "e"] ∧
    (answer Cfg.ideal (loopProc N) (rounds N 1 (start Cfg.ideal (loopProc N) vars) vs).2 "B" (1 + vs.length) (.ok [("c", last)])).topLive
      (loopProc N) = false ∧
    (answer Cfg.ideal (loopProc N) (rounds N 1 (start Cfg.ideal (loopProc N) vars) vs).2 "B" (1 + vs.length) (.ok [("c", last)])).outOfScope = none := by
  obtain ⟨o0, l0⟩ := loop_start N vars
  obtain ⟨o1, l1⟩ := loop_rounds N vs 1 _ _ l0 hvs
  obtain ⟨o2, t2, _, oo2⟩ := (loop_step N (1 + vs.length) _ _ l1 last).2 hlast
  exact ⟨o0, o1, o2, t2, oo2⟩

/-- non-vacuity (executable): bound 3, answers 1, 2, 3 — three requests of the inner task -/
example : (let s0 := start Cfg.ideal (loopProc 3) []
           let r := rounds 3 1 s0 [1, 2]
           (s0.obs, r.1, (answer Cfg.ideal (loopProc 3) r.2 "B" 3 (.ok [("c", 3)])).obs)) =
    ([.req "B"], [[.complete "ue", .req "B"], [.complete "ue", .req "B"]], [.complete "ue", .complete "e"]) := by decide +kernel

end Bpmn.Props.C12Loop
