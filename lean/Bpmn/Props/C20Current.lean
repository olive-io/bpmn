import Bpmn.Props.C20
import Bpmn.Gen.C20
/-! C20 instantiated at the facts extracted from the current /repo tree.

`snoNewSerialised`, `fallbackCounterAtomic` and `fallbackPrefixSerial` each select a side of a dichotomy that is proved
for both values, so this module type-checks whichever way the code is (a mutex in `SnoGenerator.New`, or a serial
number in the fallback prefix, makes the witness the uniqueness theorem); it stops
type-checking only when a fact is `none` (construct not found) or when one of the two facts the model hard-wires
(restore applies the snapshot, the fallback prefix contains a clock reading) moved. -/
namespace Bpmn.Props.C20
open Bpmn.Model.IdGen

def SnoClaimAt : Option Bool → Prop
  | some b => SnoClaim b
  | none => False

def FallbackClaimAt : Option Bool → Prop
  | some b => FallbackClaim b
  | none => False

/-- `some false`: the stale-time witness; `some true`: uniqueness for every schedule -/
theorem snoClaimAt_some (b : Bool) : SnoClaimAt (some b) := sno_dichotomy b
theorem fallbackClaimAt_some (b : Bool) : FallbackClaimAt (some b) := fallback_dichotomy b

theorem current_sno : SnoClaimAt Bpmn.Gen.C20.snoNewSerialised := snoClaimAt_some _

theorem current_fallback : FallbackClaimAt Bpmn.Gen.C20.fallbackCounterAtomic := fallbackClaimAt_some _

def FallbackPrefixClaimAt : Option Bool → Prop
  | some b => FallbackPrefixClaim b
  | none => False

theorem fallbackPrefixClaimAt_some (b : Bool) : FallbackPrefixClaimAt (some b) := fallback_prefix_dichotomy b

/-- clock-only prefix: the same-clock witness; prefix with serial number: uniqueness across all generators of a
program for arbitrary clock readings -/
theorem current_fallback_prefix : FallbackPrefixClaimAt Bpmn.Gen.C20.fallbackPrefixSerial :=
  fallbackPrefixClaimAt_some _

/-- the whole statement at the extracted facts: proved when all three are as required, refuted otherwise -/
def StatementAt : Option Bool → Option Bool → Option Bool → Prop
  | some a, some b, some c => if (a && b && c) = true then C20_statementFor a b c else ¬ C20_statementFor a b c
  | _, _, _ => False

theorem statementAt_some (a b c : Bool) : StatementAt (some a) (some b) (some c) :=
  have e : (a && b && c) = true ↔ C20_statementFor a b c := by
    rw [C20_decided, Bool.and_eq_true, Bool.and_eq_true, and_assoc]
  iteInduction (motive := id) e.1 (mt e.2)

theorem current_statement : StatementAt Bpmn.Gen.C20.snoNewSerialised Bpmn.Gen.C20.fallbackCounterAtomic
    Bpmn.Gen.C20.fallbackPrefixSerial := statementAt_some _ _ _

/-- the model's `Ev.restore` continues from the snapshot, as `RestoreIdGenerator` does -/
theorem current_restore_applies_snapshot : Bpmn.Gen.C20.snoRestoreAppliesSnapshot = some true := by decide

/-- the model's prefix contains a creation-time clock reading, as `NewFallbackGenerator`'s does -/
theorem current_fallback_prefix_from_clock : Bpmn.Gen.C20.fallbackPrefixFromClock = some true := by decide

end Bpmn.Props.C20
