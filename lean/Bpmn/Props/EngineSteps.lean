import Bpmn.Props.C01
import Bpmn.Props.C03
import Bpmn.Props.C04
import Bpmn.Props.C01Fragment
/-!
# The gateway kernels inside the engine model: one step of `arrive`, for ANY program, state and configuration

`Props/C03`, `Props/C04` and `Props/C05` prove the gateway properties on the decision kernels (`Gateway.distribute`,
`Gateway.xgDecide`, `Gateway.igDecide`) and on the per-gateway message models. The engine model (`Model/Engine`) calls the
same kernels; the theorems below say what ONE arrival at a gateway node does in the engine model in terms of those kernels —
so that the kernel theorems are statements about the engine model's runs, whatever the program around the gateway is.
-/
namespace Bpmn.Props.EngineSteps
open Bpmn.Model Bpmn.Model.Engine Bpmn.Model.Gateway

theorem evalFlows_unconditional (p : Proc) (s : St) (fls : List String) :
    evalFlows p s fls true = (fls.map (fun f => (f, true)), s) := by
  unfold evalFlows
  simp only [evalFlow, if_true]
  suffices h : ∀ (acc : List (String × Bool)),
      fls.foldl (fun (x : List (String × Bool) × St) fl => (x.1 ++ [(fl, true)], x.2)) (acc, s) =
        (acc ++ fls.map (fun f => (f, true)), s) by
    simpa using h []
  induction fls with
  | nil => intro acc; simp
  | cons f rest ih =>
    intro acc
    simp only [List.foldl, List.map_cons]
    rw [ih]
    simp

theorem selectFlows_one (cfg : Cfg) (p : Proc) (s : St) (t : Tok) (fl : String) :
    (selectFlows cfg p s t [fl] true).1 = [{ t with node := flowDst p fl }] ∧
    (selectFlows cfg p s t [fl] true).2.1 = false ∧
    (selectFlows cfg p s t [fl] true).2.2.obs = s.obs ∧
    (selectFlows cfg p s t [fl] true).2.2.pending = s.pending ∧
    (selectFlows cfg p s t [fl] true).2.2.parked = s.parked := by
  simp [selectFlows, evalFlows_unconditional, forkToks, St.inherit, St.recordFlow]

/-- what the gateway's probing round reports: its non-default outgoing flows with the outcome of their conditions -/
def xorReport (p : Proc) (s : St) (n : Node) : List (String × Bool) :=
  (evalFlows p s (n.outs.filter (fun f => some f != n.dflt)) false).1

/-- **Exclusive gateway, a flow is chosen.** The token continues — the same token, alone — on the flow the kernel
`xgDecide` picks. -/
theorem xor_step_take (cfg : Cfg) (p : Proc) (s : St) (t : Tok) (n : Node) (fl : String)
    (hn : p.node? t.node = some n) (hk : n.kind = .xor) (hd : xgDecide (xorReport p s n) n.dflt = .take fl) :
    (arrive cfg p s t).1 = [{ t with node := flowDst p fl }] := by
  unfold xorReport at hd
  simp only [Bpmn.Lemmas.Engine.arrive_xor_eq hn hk, hd]
  exact (selectFlows_one cfg p _ t fl).1

/-- **Exclusive gateway, nothing can be chosen.** No condition true and no default: the token is parked at the gateway and
the error is observed; no token continues. -/
theorem xor_step_error (cfg : Cfg) (p : Proc) (s : St) (t : Tok) (n : Node)
    (hn : p.node? t.node = some n) (hk : n.kind = .xor) (hd : xgDecide (xorReport p s n) n.dflt = .error) :
    (arrive cfg p s t).1 = [] ∧ t ∈ (arrive cfg p s t).2.parked ∧
    Obs.err "noeffective-exclusive" ∈ (arrive cfg p s t).2.obs := by
  unfold xorReport at hd
  simp only [Bpmn.Lemmas.Engine.arrive_xor_eq hn hk, hd]
  simp [St.emit]

/-- **Never two.** An arrival at an exclusive gateway lets at most one token continue, whatever the data, the conditions
and the configuration. -/
theorem xor_step_at_most_one (cfg : Cfg) (p : Proc) (s : St) (t : Tok) (n : Node)
    (hn : p.node? t.node = some n) (hk : n.kind = .xor) : (arrive cfg p s t).1.length ≤ 1 := by
  cases hd : xgDecide (xorReport p s n) n.dflt with
  | take fl => rw [xor_step_take cfg p s t n fl hn hk hd]; simp
  | error => rw [(xor_step_error cfg p s t n hn hk hd).1]; simp

/-- **Deterministic routing.** If the report is `pre ++ (fl, true) :: post` with every flow of `pre` false, the token goes
to the target of `fl` — the first true one in the gateway's own order (kernel theorem `xgDecide_first_true`). -/
theorem xor_routes_first_true (cfg : Cfg) (p : Proc) (s : St) (t : Tok) (n : Node) (fl : String)
    (pre post : List (String × Bool)) (hn : p.node? t.node = some n) (hk : n.kind = .xor)
    (hr : xorReport p s n = pre ++ (fl, true) :: post) (hpre : ∀ x ∈ pre, x.2 = false) :
    (arrive cfg p s t).1 = [{ t with node := flowDst p fl }] := by
  apply xor_step_take cfg p s t n fl hn hk
  rw [hr]
  exact Bpmn.Props.C04.xgDecide_first_true pre post fl n.dflt hpre

/-- **Default.** Every condition false and a default flow `d`: the token goes to the target of `d`. -/
theorem xor_routes_default (cfg : Cfg) (p : Proc) (s : St) (t : Tok) (n : Node) (d : String)
    (hn : p.node? t.node = some n) (hk : n.kind = .xor) (hd : n.dflt = some d)
    (hall : ∀ x ∈ xorReport p s n, x.2 = false) :
    (arrive cfg p s t).1 = [{ t with node := flowDst p d }] := by
  apply xor_step_take cfg p s t n d hn hk
  rw [hd]
  exact Bpmn.Props.C04.xgDecide_default _ d hall

/-- the tokens recorded at parallel gateway `g` -/
def waitingAt (s : St) (g : String) : List Nat := ((s.pg.find? (·.1 == g)).map (·.2)).getD []

theorem waitingAt_put (pg : List (String × List Nat)) (s : St) (g : String) (cur : List Nat) :
    waitingAt { s with pg := pg.filter (·.1 != g) ++ [(g, cur)] } g = cur := by
  simp [waitingAt, List.find?_append, Bpmn.Props.C04.find?_filter_ne (·.1) pg g]

theorem waitingAt_cleared (pg : List (String × List Nat)) (s : St) (g : String) :
    waitingAt { s with pg := pg.filter (·.1 != g) } g = [] := by
  simp [waitingAt, Bpmn.Props.C04.find?_filter_ne (·.1) pg g]

/-- **Parallel gateway, still waiting.** While an incoming token is missing the arriving token is held: no token
continues, nothing is observed, nothing is requested; the gateway's record is the earlier tokens followed by this one. -/
theorem par_step_holds (cfg : Cfg) (p : Proc) (s : St) (t : Tok) (n : Node)
    (hn : p.node? t.node = some n) (hk : n.kind = .par)
    (hmiss : (waitingAt s n.id).length + 1 < n.ins.length) :
    (arrive cfg p s t).1 = [] ∧ (arrive cfg p s t).2.obs = s.obs ∧ (arrive cfg p s t).2.pending = s.pending ∧
    waitingAt (arrive cfg p s t).2 n.id = waitingAt s n.id ++ [t.fid] := by
  have hf : Bpmn.Lemmas.Engine.parFull s n t = false := by
    have h2 : n.ins.isEmpty = false := by
      cases hi : n.ins with
      | nil => rw [hi] at hmiss; simp at hmiss
      | cons _ _ => rfl
    have hl : (Bpmn.Lemmas.Engine.parCur s n t).length = (waitingAt s n.id).length + 1 := List.length_append
    simp [Bpmn.Lemmas.Engine.parFull, h2, hl]; omega
  rw [Bpmn.Lemmas.Engine.arrive_par_eq hn hk, hf]
  exact ⟨rfl, rfl, rfl, waitingAt_put s.pg s n.id _⟩

def replyLen (outs : List String) : Reply → Nat
  | .complete => 0
  | .flows lo hi => ((outs.drop lo).take (hi - lo)).length

theorem replyLen_indices (a i : Nat) (outs : List String) :
    replyLen outs (reply a outs.length i) = (reply a outs.length i).indices.length := by
  rw [Bpmn.Props.C03.reply_eq]
  split
  · rfl
  · -- the slice `[i, hi)` lies inside `outs`: `hi` is `i + 1` or the number of flows
    simp only [replyLen, Reply.indices, List.length_take, List.length_drop, List.length_map, List.length_range]
    split <;> omega

theorem sum_replyLen (a : Nat) (outs : List String) (ha : 1 ≤ a) :
    ((distribute a outs.length).map (replyLen outs)).sum = outs.length := by
  have h := congrArg List.length (Bpmn.Props.C03.distribute_partition a outs.length ha)
  rw [List.length_range, List.length_flatMap] at h
  refine Eq.trans ?_ h
  congr 1
  unfold distribute
  simp only [List.map_map]
  apply List.map_congr_left
  intro i _
  exact replyLen_indices a i outs

theorem selectFlows_unc_length (cfg : Cfg) (p : Proc) (s : St) (t : Tok) (fls : List String) :
    (selectFlows cfg p s t fls true).1.length = fls.length := by
  cases fls with
  | nil => simp [selectFlows]
  | cons f rest =>
    simp only [selectFlows, evalFlows_unconditional]
    simp only [List.map_cons, List.filter_cons, if_true, List.head?_cons, Option.map_some, Option.getD_some,
      Bool.not_true, Bool.and_false, Bool.false_eq_true, if_false]
    have hfilter : List.map (fun x => x.1) (List.filter (fun x => x.2) (List.map (fun f => (f, true)) rest)) = rest := by
      induction rest with
      | nil => rfl
      | cons a l ih => simp [ih]
    simp only [hfilter, List.length_cons]
    have h := congrArg List.length (Bpmn.Props.C01.forkToks_spec p s rest).1
    simp only [List.length_map] at h
    simpa using h

theorem release_fold_length (cfg : Cfg) (p : Proc) (n : Node) :
    ∀ (pairs : List (Nat × Reply)) (x : List Tok × St),
    (pairs.foldl (Bpmn.Lemmas.Engine.parStep cfg p n) x).1.length =
      x.1.length + ((pairs.map (·.2)).map (replyLen n.outs)).sum := by
  intro pairs
  induction pairs with
  | nil => intro x; rfl
  | cons fr rest ih =>
    intro x
    obtain ⟨f, r⟩ := fr
    rw [List.foldl_cons, ih, List.map_cons, List.map_cons, List.sum_cons, ← Nat.add_assoc]
    congr 1
    cases r with
    | complete => rfl
    | flows lo hi =>
      simp only [Bpmn.Lemmas.Engine.parStep, List.length_append, selectFlows_unc_length, replyLen]

@[simp] theorem emit_pg (s : St) (o : Obs) : (s.emit o).pg = s.pg := rfl
@[simp] theorem recordTerm_pg (s : St) (f : Nat) : (s.recordTerm f).pg = s.pg := rfl
@[simp] theorem recordFlow_pg (s : St) (p : Proc) (src : String) (fids : List Nat) :
    (s.recordFlow p src fids).pg = s.pg := rfl
@[simp] theorem cause_pg (s : St) (c : String) : (s.cause c).pg = s.pg := by
  unfold St.cause; split <;> rfl
@[simp] theorem inherit_pg (s : St) (parent : Nat) (kids : List Nat) : (s.inherit parent kids).pg = s.pg := by
  unfold St.inherit
  exact Bpmn.Lemmas.Engine.foldl_proj (fun s : St => s.pg) _ (by intro _ _; rfl) _ _
@[simp] theorem evalFlow_pg (p : Proc) (s : St) (fl : String) (u : Bool) : (evalFlow p s fl u).2.pg = s.pg := by
  unfold evalFlow
  split
  · rfl
  · split
    · rfl
    · split <;> rfl
@[simp] theorem evalFlows_pg (p : Proc) (s : St) (fls : List String) (u : Bool) : (evalFlows p s fls u).2.pg = s.pg := by
  unfold evalFlows
  exact Bpmn.Lemmas.Engine.foldl_proj (fun x : List (String × Bool) × St => x.2.pg) _ (fun _ _ => evalFlow_pg ..) _ _
@[simp] theorem forkToks_pg (p : Proc) (s : St) (fls : List String) : (forkToks p s fls).2.pg = s.pg := by
  unfold forkToks
  exact Bpmn.Lemmas.Engine.foldl_proj (fun x : List Tok × St => x.2.pg) _ (by intro _ _; rfl) _ _

theorem selectFlows_pg (cfg : Cfg) (p : Proc) (s : St) (t : Tok) (fls : List String) (u : Bool) :
    (selectFlows cfg p s t fls u).2.2.pg = s.pg := by
  unfold selectFlows
  split
  · rfl
  · simp only
    split
    · simp
    · split <;> simp

theorem parStep_pg (cfg : Cfg) (p : Proc) (n : Node) (x : List Tok × St) (fr : Nat × Reply) :
    (Bpmn.Lemmas.Engine.parStep cfg p n x fr).2.pg = x.2.pg := by
  unfold Bpmn.Lemmas.Engine.parStep
  split
  · rfl
  · exact selectFlows_pg ..

/-- **Parallel gateway, the set is complete.** The arrival that brings the number of recorded tokens to the number of
incoming flows clears the gateway's record and sends out exactly one token per outgoing flow — for every number of
incoming and outgoing flows (with `Props/C03.distribute_partition`: each outgoing flow exactly once). -/
theorem par_step_releases_all (cfg : Cfg) (he : cfg.eagerSettle = false) (p : Proc) (s : St) (t : Tok) (n : Node)
    (hn : p.node? t.node = some n) (hk : n.kind = .par)
    (hfull : (waitingAt s n.id).length + 1 = n.ins.length) :
    (arrive cfg p s t).1.length = n.outs.length ∧ waitingAt (arrive cfg p s t).2 n.id = [] := by
  have hl : (Bpmn.Lemmas.Engine.parCur s n t).length = n.ins.length := List.length_append.trans hfull
  rw [Bpmn.Lemmas.Engine.arrive_par_eq hn hk,
    show Bpmn.Lemmas.Engine.parFull s n t = true by rw [Bpmn.Lemmas.Engine.parFull, hl, beq_self_eq_true]; rfl, he]
  simp only [if_true, Bool.false_eq_true, if_false]
  constructor
  · rw [release_fold_length, List.length_nil, Nat.zero_add,
      List.map_snd_zip (by rw [Bpmn.Props.C03.distribute_length]; exact Nat.le_refl _)]
    exact sum_replyLen _ n.outs (by rw [hl, ← hfull]; exact Nat.succ_pos _)
  · unfold waitingAt
    rw [Bpmn.Lemmas.Engine.foldl_proj (fun x : List Tok × St => x.2.pg) _ (parStep_pg cfg p n)]
    exact waitingAt_cleared s.pg s n.id

/-- tokens arriving one after the other: what continues, and the state -/
def arriveAll (cfg : Cfg) (p : Proc) (s : St) (toks : List Tok) : List Tok × St :=
  toks.foldl (fun (x : List Tok × St) t => let r := arrive cfg p x.2 t; (x.1 ++ r.1, r.2)) ([], s)

theorem arriveAll_go (cfg : Cfg) (p : Proc) (n : Node) (hk : n.kind = .par) :
    ∀ (toks : List Tok) (acc : List Tok) (s : St),
      (∀ t ∈ toks, p.node? t.node = some n) →
      (waitingAt s n.id).length + toks.length < n.ins.length →
      let r := toks.foldl (fun (x : List Tok × St) t => let r := arrive cfg p x.2 t; (x.1 ++ r.1, r.2)) (acc, s)
      r.1 = acc ∧ r.2.obs = s.obs ∧ waitingAt r.2 n.id = waitingAt s n.id ++ toks.map (·.fid) := by
  intro toks
  induction toks with
  | nil => intro acc s _ _; exact ⟨rfl, rfl, (List.append_nil _).symm⟩
  | cons t rest ih =>
    intro acc s hall hlen
    rw [List.length_cons] at hlen
    obtain ⟨h1, h2, _, h4⟩ := par_step_holds cfg p s t n (hall t (List.mem_cons_self ..)) hk (by omega)
    obtain ⟨r1, r2, r3⟩ := ih (acc ++ (arrive cfg p s t).1) (arrive cfg p s t).2
      (fun u hu => hall u (List.mem_cons_of_mem _ hu))
      (by rw [h4, List.length_append, List.length_singleton]; omega)
    refine ⟨r1.trans (by rw [h1, List.append_nil]), r2.trans h2, r3.trans ?_⟩
    rw [h4, List.append_assoc]; rfl

/-- **Parallel join, every arrival order, every width.** Whatever the program around it: while fewer tokens than the
gateway has incoming flows have arrived — in ANY order, tokens of any identity — nothing continues and nothing is observed;
the gateway's record is exactly the arrivals so far, in order. -/
theorem par_join_waits (cfg : Cfg) (p : Proc) (s : St) (n : Node) (hk : n.kind = .par) (toks : List Tok)
    (hall : ∀ t ∈ toks, p.node? t.node = some n) (hempty : waitingAt s n.id = [])
    (hfew : toks.length < n.ins.length) :
    (arriveAll cfg p s toks).1 = [] ∧ (arriveAll cfg p s toks).2.obs = s.obs ∧
    waitingAt (arriveAll cfg p s toks).2 n.id = toks.map (·.fid) := by
  have h := arriveAll_go cfg p n hk toks [] s hall (by rw [hempty]; simpa using hfew)
  unfold arriveAll
  refine ⟨h.1, h.2.1, ?_⟩
  rw [h.2.2, hempty]; rfl

/-- … and the arrival that completes the set sends out one token per outgoing flow and empties the record: the gateway is
ready for its next activation (loops). -/
theorem par_join_fires (cfg : Cfg) (he : cfg.eagerSettle = false) (p : Proc) (s : St) (n : Node) (hk : n.kind = .par)
    (toks : List Tok) (last : Tok)
    (hall : ∀ t ∈ toks, p.node? t.node = some n) (hlast : p.node? last.node = some n)
    (hempty : waitingAt s n.id = []) (hfull : toks.length + 1 = n.ins.length) :
    (arriveAll cfg p s (toks ++ [last])).1.length = n.outs.length ∧
    waitingAt (arriveAll cfg p s (toks ++ [last])).2 n.id = [] := by
  have hw := par_join_waits cfg p s n hk toks hall hempty (by omega)
  unfold arriveAll at hw ⊢
  rw [List.foldl_append]
  simp only [List.foldl_cons, List.foldl_nil]
  have hrel := par_step_releases_all cfg he p
    (toks.foldl (fun (x : List Tok × St) t => let r := arrive cfg p x.2 t; (x.1 ++ r.1, r.2)) ([], s)).2 last n hlast hk
    (by rw [hw.2.2]; simpa using hfull)
  refine ⟨?_, hrel.2⟩
  rw [List.length_append, hw.1]
  simpa using hrel.1

theorem igGet_gw (s : St) (id : String) : (igGet s id).gw = id := by
  unfold igGet
  cases h : s.ig.find? (·.gw == id) with
  | none => rfl
  | some g => simpa using List.find?_some h

theorem igGet_igSet (s : St) (g : IgSt) (id : String) (h : g.gw = id) : igGet (igSet s g) id = g := by
  subst h
  simp [igGet, igSet, List.find?_append, Bpmn.Props.C04.find?_filter_ne (·.gw) s.ig g.gw]

/-- **Inclusive gateway.** An arrival never continues by itself and observes nothing: the token is recorded at the
gateway (`activated` / `arrived`); whether and where it goes on is decided when the work list is empty (`settleIncl`,
kernel `igDecide`: `Props/C05`). -/
theorem incl_step_holds (cfg : Cfg) (p : Proc) (s : St) (t : Tok) (n : Node)
    (hn : p.node? t.node = some n) (hk : n.kind = .incl) :
    (arrive cfg p s t).1 = [] ∧ (arrive cfg p s t).2.obs = s.obs ∧ (arrive cfg p s t).2.pending = s.pending ∧
    t.fid ∈ (igGet (arrive cfg p s t).2 n.id).arrived := by
  rw [Bpmn.Lemmas.Engine.arrive_incl_eq hn hk]
  split
  · refine ⟨rfl, rfl, rfl, ?_⟩
    show t.fid ∈ (igGet (igSet s _) n.id).arrived
    rw [igGet_igSet]
    · exact List.mem_singleton_self _
    · exact igGet_gw s n.id
  · refine ⟨rfl, rfl, rfl, ?_⟩
    show t.fid ∈ (igGet (igSet s _) n.id).arrived
    rw [igGet_igSet]
    · exact List.mem_append_right _ (List.mem_singleton_self _)
    · exact igGet_gw s n.id

/-- **Intermediate throw event** (with the repaired switch): every arrival — the first as well as any later one — leaves
over the event's outgoing flows exactly as `selectFlows` prescribes; the event is marked as reached. -/
theorem throw_step_passes (cfg : Cfg) (hf : cfg.throwFuse = false) (p : Proc) (s : St) (t : Tok) (n : Node)
    (hn : p.node? t.node = some n) (hk : n.kind = .throw_) :
    arrive cfg p s t =
      (let s' := { s with activated := if s.activated.contains n.id then s.activated else n.id :: s.activated }
       let r := selectFlows cfg p s' t n.outs false
       (if r.2.1 then t :: r.1 else r.1, r.2.2)) := by
  rw [Bpmn.Lemmas.Engine.arrive_throw_eq hn hk, hf]
  rfl

/-- **and with the fuse** (the code before f5a8c41): the second arrival is consumed at the event, nothing continues -/
theorem throw_step_fused (cfg : Cfg) (hf : cfg.throwFuse = true) (p : Proc) (s : St) (t : Tok) (n : Node)
    (hn : p.node? t.node = some n) (hk : n.kind = .throw_) (hbefore : s.activated.contains n.id = true) :
    (arrive cfg p s t).1 = [] ∧ "throw_fused" ∈ (arrive cfg p s t).2.causes := by
  rw [Bpmn.Lemmas.Engine.arrive_throw_eq hn hk, hf, hbefore]
  refine ⟨rfl, ?_⟩
  simp only [Bool.and_self, if_true, Bpmn.Lemmas.Engine.recordTerm_causes, Bpmn.Lemmas.Engine.emit_causes]
  exact Bpmn.Lemmas.Engine.mem_cause s _

/-! ## non-vacuity: the hypotheses are met in runs of the demo programs -/

open Bpmn.Props.C01Fragment Bpmn.Props.C01Conformance in
/-- in `demoProc`, after `A` answered with v = 2, the token reaches the exclusive split X2 whose only condition `v < 2` is
false: it leaves over the default flow to the parallel fork, which sends out two tokens -/
example : ((runOps Cfg.ideal demoProc [] [("A", 1, .ok [("v", 2)])]).pending.map (·.1.node)) = ["B", "C"] := by decide +kernel

end Bpmn.Props.EngineSteps
