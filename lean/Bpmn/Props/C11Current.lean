import Bpmn.Props.C11
import Bpmn.Gen.C11
/-! C11 instantiated at the facts extracted from the current /repo tree (`Bpmn.Gen.C11`, regenerated on every run).

Every theorem here is a dichotomy that type-checks whichever way the facts point: on a tree whose `ConsumeEvent`
can block on a never-reached node it proves the witness side, after a repair (reader started by the constructor, a
send that cannot block, or a send only once the reader runs) the same text proves the positive side, without any
alarm. The module stops building only when the extractor cannot read a fact (`none`): then `current` does not
elaborate. The capacity coefficients may be anything: any capacity gives a witness one event longer. -/
namespace Bpmn.Props.C11
open Bpmn.Model.CatchEvent

def inboxFactsOf : Option Nat → Option Nat → Option Bool → Option Bool → Option Bool → Option InboxFacts
  | some m, some a, some r, some nb, some g =>
    some { capMul := m, capAdd := a, readerAtConstruction := r, sendNonBlocking := nb, sendOnlyWhenRunning := g }
  | _, _, _, _, _ => none

def factsOf? : Option Facts := do
  let c ← inboxFactsOf Bpmn.Gen.C11.catchCapMul Bpmn.Gen.C11.catchCapAdd Bpmn.Gen.C11.catchReaderAtConstruction
    Bpmn.Gen.C11.catchSendNonBlocking Bpmn.Gen.C11.catchSendOnlyWhenRunning
  let s ← inboxFactsOf Bpmn.Gen.C11.startCapMul Bpmn.Gen.C11.startCapAdd Bpmn.Gen.C11.startReaderAtConstruction
    Bpmn.Gen.C11.startSendNonBlocking Bpmn.Gen.C11.startSendOnlyWhenRunning
  pure { catch_ := c, start := s }

def current : Facts := factsOf?.get (by decide)

/-- C11 on the current facts: holds, or is false with the witness of `C11_counterexample_unreached_inbox` -/
theorem current_verdict : if current.ok = true then C11_statement current else ¬ C11_statement current := by
  split
  · next h => exact C11_general _ h
  · next h => exact C11_cex _ (by simpa using h)

/-- per node type (intermediate catch event / start event): its `ConsumeEvent` can never block, or a node of that
type that is not reached blocks the delivery that follows `cap` earlier ones, for every incoming-flow count -/
theorem current_kind (kind : NodeKind) :
    if (current.of kind).ok = true then
      ∀ (n : Node) (e : Ev), n.kind = kind → CtorRunning current n → consume (current.of n.kind) n e ≠ .blocks
    else
      ∀ (incoming : Nat) (defs : List Ev) (e : Ev),
        (deliver current e (runOps current (Sys.init current [{ kind, incoming, defs }])
          (List.replicate ((current.of kind).cap incoming) (Op.deliver e))).1).1.waiting = [{ ev := e, pos := 0 }] := by
  split
  · next h => intro n e hk hc; exact no_block_of_kind_ok current n (by rw [hk]; exact h) hc e
  · next h => intro incoming defs e; exact (C11_counterexample_unreached_inbox current kind (by simpa using h) incoming defs e).2.1

/-- everything that does not depend on the facts, at the current facts -/
theorem current_partial :
    DeliverOnce current ∧ DeliverStops current ∧ StaleInert ∧ StaleInertSys current ∧ Conserved ∧
      ConservedSys current ∧ (current.ok = true → Bounded current) :=
  C11_holds_partial current

end Bpmn.Props.C11
