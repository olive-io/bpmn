import Bpmn.Lemmas.Engine
/-!
# C12 — Embedded sub-process behaves like its content inlined; the parent continues once

Engine-model statements about the sub-process node: the parent token is held while any inner token is alive,
and the two defects of the code as first extracted (parent never resumes, D10; second activation skips the content,
D10r — both repaired in /repo) as kernel-checked witnesses against the token game. The general "wrapped = inlined" theorem over all
block contexts is not proved (`C12_partial`); it is checked on every generated pair by the c12 family.
-/
namespace Bpmn.Props.C12
open Bpmn.Model Bpmn.Model.Engine

/-- The parent token does not leave the sub-process while an inner token is alive: if no inclusive gateway can
synchronise and every running sub-process still has a live inner token, `settle` releases nothing. -/
theorem settle_holds_parent (cfg : Cfg) (p : Proc) (s : St)
    (hig : (settleIncl cfg p s []).1 = none)
    (hlive : ∀ t ∈ (settleIncl cfg p s []).2.subs, liveInScope p (settleIncl cfg p s []).2 t.node [] = true) :
    (settle cfg p s).1 = [] := by
  rw [settle_of_none cfg p s hig, Bpmn.Lemmas.Engine.settleSubs_idle (List.find?_eq_none.mpr fun t ht => by simp [hlive t ht])]

/-- start → A → sub( start → B → end ) → C → end -/
def subProc : Proc :=
  { nodes := [
      { id := "s", kind := .start, ins := [], outs := ["f0"] },
      { id := "A", kind := .task, ins := ["f0"], outs := ["f1"] },
      { id := "U", kind := .sub, ins := ["f1"], outs := ["f2"] },
      { id := "us", kind := .start, ins := [], outs := ["g0"], parent := "U" },
      { id := "B", kind := .task, ins := ["g0"], outs := ["g1"], parent := "U" },
      { id := "ue", kind := .end_, ins := ["g1"], outs := [], parent := "U" },
      { id := "C", kind := .task, ins := ["f2"], outs := ["f3"] },
      { id := "e", kind := .end_, ins := ["f3"], outs := [] }],
    flows := [
      { id := "f0", src := "s", dst := "A", cond := .none }, { id := "f1", src := "A", dst := "U", cond := .none },
      { id := "f2", src := "U", dst := "C", cond := .none }, { id := "f3", src := "C", dst := "e", cond := .none },
      { id := "g0", src := "us", dst := "B", cond := .none }, { id := "g1", src := "B", dst := "ue", cond := .none }] }

/-- how often `C` (behind the sub-process) is requested after answering A then B -/
def cRequests (cfg : Cfg) : Nat :=
  let s0 := start cfg subProc []
  let s1 := answer cfg subProc s0 "A" 1 (.ok [])
  let s2 := answer cfg subProc s1 "B" 1 (.ok [])
  (s1.obs ++ s2.obs).count (.req "C")

/-- inner activity requested exactly when the sub-process is entered, parent continues exactly once afterwards -/
theorem sub_example_token_game :
    (let s0 := start Cfg.ideal subProc []
     let s1 := answer Cfg.ideal subProc s0 "A" 1 (.ok [])
     s1.obs = [.req "B"]) ∧ cRequests Cfg.ideal = 1 := by
  decide +kernel

/-- **Witness of the repaired defect D10**: with the completion monitor on the wrong tracer the parent token never
leaves the sub-process. -/
theorem C12_counterexample_parent_never_resumes :
    cRequests { Cfg.ideal with subNeverReturns := true } = 0 := by
  decide +kernel

/-- the same sub-process inside a loop: A → U → X(loop back to A while c < 2) -/
def loopSubProc : Proc :=
  { nodes := [
      { id := "s", kind := .start, ins := [], outs := ["f0"] },
      { id := "M", kind := .xor, ins := ["f0", "f4"], outs := ["f1"] },
      { id := "U", kind := .sub, ins := ["f1"], outs := ["f2"] },
      { id := "us", kind := .start, ins := [], outs := ["g0"], parent := "U" },
      { id := "B", kind := .task, ins := ["g0"], outs := ["g1"], parent := "U", results := ["c"], hasResults := true },
      { id := "ue", kind := .end_, ins := ["g1"], outs := [], parent := "U" },
      { id := "X", kind := .xor, ins := ["f2"], outs := ["f4", "f5"], dflt := some "f5" },
      { id := "e", kind := .end_, ins := ["f5"], outs := [] }],
    flows := [
      { id := "f0", src := "s", dst := "M", cond := .none }, { id := "f1", src := "M", dst := "U", cond := .none },
      { id := "f2", src := "U", dst := "X", cond := .none }, { id := "f4", src := "X", dst := "M", cond := .lt "c" 2 },
      { id := "f5", src := "X", dst := "e", cond := .none },
      { id := "g0", src := "us", dst := "B", cond := .none }, { id := "g1", src := "B", dst := "ue", cond := .none }] }

/-- requests of the inner task `B` on start and after its first answer, c = 1, which sends the token round the loop -/
def bRequests (cfg : Cfg) : Nat :=
  let s0 := start cfg loopSubProc [("c", 0)]
  let s1 := answer cfg loopSubProc s0 "B" 1 (.ok [("c", 1)])
  (s0.obs ++ s1.obs).count (.req "B")

/-- **Witness of the repaired defect D10r (`sub_reentry`)**: the token game requests the inner activity again on the
second activation; with the start events left activated and a single completion monitor (`subStartSticky`) it is not. -/
theorem C12_counterexample_reentry :
    bRequests Cfg.ideal = 2 ∧ bRequests { Cfg.ideal with subStartSticky := true } = 1 := by
  decide +kernel

def C12_statement_partial : Prop :=
  (∀ (cfg : Cfg) (p : Proc) (s : St), (settleIncl cfg p s []).1 = none →
      (∀ t ∈ (settleIncl cfg p s []).2.subs, liveInScope p (settleIncl cfg p s []).2 t.node [] = true) →
      (settle cfg p s).1 = []) ∧
  cRequests Cfg.ideal = 1 ∧ bRequests Cfg.ideal = 2

theorem C12_partial : C12_statement_partial :=
  ⟨settle_holds_parent, sub_example_token_game.2, C12_counterexample_reentry.1⟩

end Bpmn.Props.C12
