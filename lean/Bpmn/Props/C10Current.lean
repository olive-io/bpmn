import Bpmn.Props.C10
import Bpmn.Gen.C10
/-! C10 instantiated at the facts extracted from the current /repo tree (`Bpmn.Gen.C10`, regenerated on every run).

The verdict theorems are dichotomies (`if fact then … else …`) proved for both values of each fact, so this module
type-checks on either side of a repair: what it proves then changes from the witness to the positive statement. It
stops type-checking when a fact cannot be read (`none`), when one of the two facts the model hard-wires has moved
(`current_request_ignores_cancel`, `current_cancel_only_if_interrupting`), or when something that is right today regresses (`current_no_regression`). -/
namespace Bpmn.Props.C10
open Bpmn.Model.Boundary

def cfgOf (gated once refuse share early resetFirst : Option Bool) : Option Cfg := do
  let g ← gated; let o ← once; let r ← refuse; let s ← share; let e ← early; let rf ← resetFirst
  pure { gated := g, once := o, refuse := r, share := s, early := e, resetFirst := rf }

def current : Cfg :=
  (cfgOf Bpmn.Gen.C10.eventsGatedByActive Bpmn.Gen.C10.cancellationOnce Bpmn.Gen.C10.cancelRefusedWhilePending
    Bpmn.Gen.C10.listenersShareWaitGroup Bpmn.Gen.C10.activeSetBeforeNextAction
    Bpmn.Gen.C10.activeResetBeforeHandover).get (by decide)

/-- D7 does not depend on the facts: on the current ones (as on any) the interrupting statement is false: the cancel
cannot stop a request in flight (C10 as a whole: `current_verdict`) -/
theorem current_interrupting : ¬ boundary_interrupting current := C10_counterexample_interrupting current

theorem current_second_event : ¬ boundary_non_interrupting current := C10_counterexample_second_event current

/-- the model hard-wires that the request goroutine waits only for its context and its answer, so that no cancel
verdict can reach it (`respond` is enabled whatever the activity's run loop did) -/
theorem current_request_ignores_cancel : Bpmn.Gen.C10.requestIgnoresCancel = some true := by decide

/-- the model hard-wires that only listeners of boundary events with cancelActivity cancel the host (`transform`) -/
theorem current_cancel_only_if_interrupting : Bpmn.Gen.C10.cancelOnlyIfInterrupting = some true := by decide

/-- the `cancellation` once: no matched listener is left waiting for a verdict -/
theorem current_once :
    if current.once = true then
      ∀ (kinds : List Bool) (s : St), Reach current kinds s → quiet current s = true →
        ∀ (i : Nat) (l : Listener), s.ls[i]? = some l → l.phase = .idle ∨ l.phase = .armed ∨ l.phase = .moved
    else
      ∃ (s : St) (l : Listener), Reach current [true, true] s ∧ quiet current s = true ∧ s.ls[1]? = some l ∧
        l.phase = .cancelling ∧ l.conts = 0 ∧ l.got = 1 ∧ l.dropped = 0 := by
  split
  · next h => exact exception_progress current h
  · next h => exact C10_counterexample_no_once current (by simpa using h)

/-- no reaction after completion: governed by the `active` gate of `harness.ConsumeEvent` -/
theorem current_no_reaction :
    if current.gated = true then
      ∀ (kinds : List Bool) (s : St), Reach current kinds s → quiet current s = true → s.req = .done →
        ∀ (tr : List Label) (s' : St), run current s tr = some s' → s' = s
    else ¬ boundary_inert_after_completion current := by
  split
  · next h => exact inert_no_reaction current h
  · next h => exact C10_counterexample_ungated current (by simpa using h)

/-- D8: governed by the wait group the listener flows are created with -/
theorem current_wait_group :
    if current.share = true then ¬ boundary_inert_after_completion current
    else ∀ s : St, wgListeners current s = 0 := by
  split
  · next h => exact C10_counterexample_armed_listener current h
  · next h => exact inert_wg_unshared current (by simpa using h)

/-- the order of the harness's two activation statements: with `active := 1` first (or without the gate) an
interrupting event can strand the host's token before the activity ever ran; with `activity.NextAction` first (and
the gate) the host is always requested -/
theorem current_activation :
    if current.early = false ∧ current.gated = true then
      ∀ (kinds : List Bool) (s : St), Reach current kinds s → quiet current s = true →
        s.req = .none ∨ s.req = .pending ∨ s.req = .done
    else
      ∃ s : St, Reach current [true] s ∧ quiet current s = true ∧ s.req = .atTask ∧ contsAt s 0 = 1 ∧
        ∀ (tr : List Label) (s' : St), run current s tr = some s' → s'.req = .atTask ∧ s'.hreqs = 0 ∧ s'.normal = 0 := by
  split
  · next h => exact host_always_requested current h.1 h.2
  · next h =>
    apply C10_counterexample_cancel_before_request
    cases he : current.early <;> cases hg : current.gated <;> simp_all

/-- the order of `active := 0` and the hand-over of the answer: reset first (and the gate) — once the token holds the
answer no event reaches a boundary event, on every schedule; reset afterwards — an event delivered after the host
completed still continues the exception flow. Reset first WITHOUT the gate: nothing is claimed, the order does not
matter when events are forwarded regardless of `active` (`current_no_reaction` has the witness) -/
theorem current_handover :
    if current.resetFirst = true ∧ current.gated = true then
      ∀ (kinds : List Bool) (s : St), Reach current kinds s → Req.forwarded.rank ≤ s.req.rank → ∀ i : Nat,
        step current s (.deliver i) = some s ∨ step current s (.deliver i) = none
    else if current.resetFirst = false then
      ∃ s s' : St, Reach current [false] s ∧ s.req = .done ∧ s.normal = 1 ∧ contsAt s 0 = 0 ∧
        run current s [.deliver 0, .catchTake 0, .transform 0, .move 0] = some s' ∧ contsAt s' 0 = 1
    else True := by
  split
  · next h => exact handover_inert current h.1 h.2
  · split
    · next h => exact C10_counterexample_late_reset current h
    · trivial

/-- C10 on the current facts: false (D7 is not governed by any extracted fact), with the partial statement where the
once and the gate are in place -/
theorem current_verdict :
    ¬ C10_statement current ∧ (if current.once = true ∧ current.gated = true then C10_partial_statement current else True) := by
  refine ⟨C10_fails current, ?_⟩
  split
  · next h => exact C10_partial current h.1 h.2
  · trivial

/-- what is right today stays right: the once, the gate, and `active := 0` before the hand-over -/
theorem current_no_regression : (current.once && current.gated && current.resetFirst) = true := by decide

end Bpmn.Props.C10
