import Bpmn.Lemmas.Xml
import Bpmn.Lemmas.XmlRoundTrip
/-!
# C15 — XML round trip

Model: `Bpmn.Model.Xml`, a generic codec (`marshal`, `parse`) over a schema table. Everything here
is for an ARBITRARY table `S` (and an arbitrary text-trimming function `tr`); the instantiation at
the table extracted from /repo is `Bpmn.Props.C15Current`.
-/
namespace Bpmn.Props.C15
open Bpmn.Model.Xml

/-- the table-level side conditions, all decidable -/
def WF (S : Schema) : Prop := wfB S = true
def PrefixesDeclared (S : Schema) : Prop := prefixesDeclaredB S = true
def XsiDeclared (S : Schema) : Prop := xsiDeclaredB S = true
def NoValueExprFields (S : Schema) : Prop := valueExprFields S = []

/-- the decidable table check the tree-level theorem needs (`Lemmas/XmlRoundTrip`): per type the
element and attribute tags are pairwise distinguishable, every element is written with a head (a
prefix declared on the root, or a default-namespace declaration) that the decoder resolves to the
namespace of the field's tag, no value-typed `AnExpression` field falls under the default
encoding rules, marshal and unmarshal defaults agree; the `xsi` prefix is declared on the root;
the formal / informal / wrapper / root types are distinct as needed and the informal type value
is not mistaken for the formal one -/
def RtTable (S : Schema) : Prop := rtTableB S = true

/-- the full statement of C15 on the model. (a) round trip of every well-typed
definitions tree (any size, any depth); (b) serialising leaves the model alone up to text
trimming, and is a function of the model only; (c) the generated `FindBy` traversals visit every
place an id-carrying element can be. -/
def C15_statement (S : Schema) : Prop :=
  (∀ (tr : String → String) (n : Node), WellTyped S n → n.ty = S.rootTy →
      parse S (marshal S tr n) = some (normRoot S tr n)) ∧
  (∀ (tr : String → String) (n : Node), (∀ s, tr (tr s) = tr s) →
      skel (stored S tr n) = skel n ∧ stored S tr (stored S tr n) = stored S tr n) ∧
  findByCoversB S = true

/-- **Tree-level round trip (positive side of the dichotomy on the table).** For EVERY schema table
that passes the check, every trimming function and every well-typed definitions tree of any size
and depth: parsing what was marshalled returns the tree, with the text of elements `PreMarshal`
runs on trimmed and the olive `Item` defaults applied — nothing else changes. -/
theorem roundtrip_general (S : Schema) (h : RtTable S) (tr : String → String) (n : Node)
    (hwt : WellTyped S n) (hroot : n.ty = S.rootTy) :
    parse S (marshal S tr n) = some (normRoot S tr n) :=
  roundtrip S tr h n hwt hroot

/-- what the round trip may change is text and defaulted attributes only: the result has the shape
of the original (same element types, same number of attributes and children everywhere) … -/
theorem roundtrip_keeps_shape (S : Schema) (tr : String → String) (n : Node) (hwt : WellTyped S n) :
    shape (normRoot S tr n) = shape n :=
  norm_shape S tr n _ hwt

/-- … and with nothing to trim (`tr = id`) on a table without defaults it is the tree itself -/
theorem roundtrip_identity (S : Schema) (h : RtTable S) (hd : ∀ ty, unmarshalDefaults S ty = [])
    (n : Node) (hwt : WellTyped S n) (hroot : n.ty = S.rootTy) :
    parse S (marshal S id n) = some n := by
  rw [roundtrip S id h n hwt hroot, normRoot, norm_id S hd n _ hwt]

/-- **C15 on the model**: for every table that passes the two decidable checks. -/
theorem C15_holds (S : Schema) (h : RtTable S) (hf : findByCoversB S = true) : C15_statement S :=
  ⟨fun tr n hwt hroot => roundtrip S tr h n hwt hroot,
   fun tr n hid => ⟨stored_skel S tr n, stored_idem S tr hid n⟩, hf⟩

/-- Dispatch is unambiguous: under `WF`-style distinctness of the element tags of a struct, the
element written for a child of field number `i` is routed by the decoder to field `i` and to no
other, whatever the child is. -/
theorem dispatch_unambiguous (env : List (Nat × Nat)) (efs : List FField) (i : Nat)
    (f : FField) (x : Xml)
    (hdist : pairwiseNoClash efs = true) (hi : efs[i]? = some f)
    (hname : x.name.loc = f.f.name)
    (hres : resolveElem (x.decls ++ env) x.name = some f.f.ns) :
    findField env x efs 0 = some (i, f.f) :=
  by simpa using findField_of_distinct env x efs i f 0 hdist hi hname hres

/-- An attribute that was written is read back: with pairwise distinct attribute names, the
decoder finds, for every attribute field, exactly the value the encoder wrote for it (defaults
applied), and nothing for a field that was omitted. -/
theorem attrs_roundtrip (env : List (Nat × Nat)) (d : List (Nat × String)) (afs : List FField)
    (vals : List (Option String)) (hlen : vals.length = afs.length)
    (hdist : pairwiseNoClash afs = true) (hns : ∀ f ∈ afs, f.f.ns = 0) :
    afs.map (fun f => findAttr env f.f (encodeAttrs d afs vals)) = normAttrs d afs vals :=
  findAttr_encodeAttrs env d afs vals hlen hdist hns

/-- `xsi` undeclared ⇒ the type attribute written for a formal expression is not recognised:
whatever the table, an element whose only XSI-looking attribute uses an undeclared prefix is
parsed as an informal expression. -/
theorem undeclared_type_attr_is_informal (S : Schema) (env : List (Nat × Nat)) (v : String)
    (hx : S.xsiPrefix ≠ 0) (hund : env.lookup S.xsiPrefix = none) :
    isFormal S env [(⟨S.xsiPrefix, S.typeLocal⟩, v)] = false := by
  simp [isFormal, resolveAttr, hx, hund]

/-- and when it is declared (bound to the XSI namespace) the formal value is recognised -/
theorem declared_type_attr_is_formal (S : Schema) (env : List (Nat × Nat))
    (hx : S.xsiPrefix ≠ 0) (hdecl : env.lookup S.xsiPrefix = some S.xsiNs) :
    isFormal S env [(⟨S.xsiPrefix, S.typeLocal⟩, S.formalValue)] = true := by
  simp [isFormal, resolveAttr, hx, hdecl, isFormalValue]

/-- **Serialising leaves the model alone, text trimming aside** (trees of any size, any table):
what `PreMarshal` stores back has the same skeleton — types, attributes, children — as the model
being serialised, and a second serialisation stores nothing new (for an idempotent trim such as
`strings.TrimSpace`). -/
theorem marshal_pure (S : Schema) (tr : String → String) (h : ∀ s, tr (tr s) = tr s) (n : Node) :
    skel (stored S tr n) = skel n ∧ stored S tr (stored S tr n) = stored S tr n :=
  ⟨stored_skel S tr n, stored_idem S tr h n⟩

-- the hypothesis of `marshal_pure` is met by `tr = id`
example : ∀ s : String, id (id s) = id s := fun _ => rfl

/-! ## A miniature table on which the whole statement is decided (non-vacuity and the defect) -/

/-- names: 1 SequenceFlow 2 id 3 conditionExpression 4 FormalExpression 5 Expression 6 language
7 text 8 AnExpression 9 type 10 definitions 11 flow 12 Definitions; namespaces: 1 MODEL 2 XSI;
prefixes: 1 bpmn 2 xsi. Structs: 0 Definitions 1 SequenceFlow 2 AnExpression 3 FormalExpression
4 Expression. A field is ⟨Go field (100 + its name), namespace, name, kind, omitempty, representation, type⟩ (type 9, not a
struct: a simple type); a struct is ⟨name, fields, marshal, marshalByValue, unmarshal, unmarshalOwner, text field, Go
fields `FindBy` visits, baseElem⟩. -/
def mini (xsi : Bool) : Schema := {
  structs := [
    ⟨12, [⟨102,0,2,.attr,true,.ptr,9⟩, ⟨111,1,11,.elem,false,.slice,1⟩], .pre, false, .none, 0, none, some [111], false⟩,
    ⟨1, [⟨102,0,2,.attr,true,.ptr,9⟩, ⟨103,1,3,.elem,false,.ptr,2⟩], .pre, false, .none, 1, none, some [103], true⟩,
    ⟨8, [⟨105,0,5,.elem,false,.val,8⟩], .anExpr, false, .anExpr, 2, none, some [105], false⟩,
    ⟨4, [⟨102,0,2,.attr,true,.ptr,9⟩, ⟨106,0,6,.attr,true,.ptr,9⟩, ⟨107,0,7,.chardata,false,.ptr,9⟩], .pre, false, .none, 3, some 107, some [], true⟩,
    ⟨5, [⟨102,0,2,.attr,true,.ptr,9⟩, ⟨107,0,7,.chardata,false,.ptr,9⟩], .pre, false, .none, 4, some 107, some [], true⟩],
  nsPrefix := [(1, 1)],
  rootDecls := if xsi then [(1, 1), (2, 2)] else [(1, 1)],
  xsiPrefix := 2, typeLocal := 9, xsiNs := 2,
  anExprTy := 2, formalTy := 3, informalTy := 4,
  rootTy := 0, rootPrefix := 1, rootLocal := 10,
  simpleMarshal := [], formalValue := "tFormalExpression", informalValue := "tExpression" }

/-- a definitions with one sequence flow whose condition is the FORMAL expression `x > 1` -/
def miniDoc : Node :=
  .mk 0 [some "D"] [[.mk 1 [some "f1"] [[.mk 3 [some "e", none] [] "x > 1"]] ""]] ""

/-- the same with an INFORMAL condition -/
def miniDocInformal : Node :=
  .mk 0 [some "D"] [[.mk 1 [some "f1"] [[.mk 4 [some "e"] [] "x > 1"]] ""]] ""

/-- **Counterexample (D11).** With the `xsi` prefix not declared on the root (as in /repo when first extracted;
`C15Current.current_xsi_dichotomy` says which side /repo is on) the formal condition comes back as an informal one: the
round trip does not preserve the model. -/
theorem C15_counterexample_xsi :
    xsiDeclaredB (mini false) = false ∧ wfB (mini false) = true ∧ prefixesDeclaredB (mini false) = true ∧
    parse (mini false) (marshal (mini false) id miniDoc) = some miniDocInformal ∧
    normRoot (mini false) id miniDoc = miniDoc ∧ miniDocInformal ≠ miniDoc := by
  decide +kernel

/-- the table check separates the two miniature tables: it fails exactly because of the undeclared
prefix, and the hypotheses of `roundtrip_general` are met by the repaired one (non-vacuity) -/
theorem mini_table_check : rtTableB (mini false) = false ∧ rtTableB (mini true) = true ∧
    WellTyped (mini true) miniDoc ∧ miniDoc.ty = (mini true).rootTy := by
  unfold WellTyped; decide +kernel

/-- with the prefix declared the same document round-trips -/
theorem mini_roundtrip_declared :
    xsiDeclaredB (mini true) = true ∧
    parse (mini true) (marshal (mini true) id miniDoc) = some (normRoot (mini true) id miniDoc) := by
  decide +kernel

/-- informal expressions round-trip whether or not the prefix is declared -/
theorem mini_roundtrip_informal_partial (xsi : Bool) :
    parse (mini xsi) (marshal (mini xsi) id miniDocInformal) = some (normRoot (mini xsi) id miniDocInformal) := by
  revert xsi; decide +kernel

/-- marshal is a function of the model, and storing the trimmed text back changes nothing a
second time (for an idempotent trim) on the miniature document -/
theorem mini_marshal_pure :
    marshal (mini false) id (stored (mini false) id miniDoc) = marshal (mini false) id miniDoc ∧
    stored (mini false) id miniDoc = miniDoc := by
  have h : stored (mini false) id miniDoc = miniDoc := by decide +kernel
  exact ⟨by rw [h], h⟩

/-! Non-vacuity of the one-level theorems: their hypotheses hold on the miniature table. -/
example : pairwiseNoClash (elemFields (mini false) 0) = true ∧ pairwiseNoClash (attrFields (mini false) 3) = true ∧
    (∀ f ∈ attrFields (mini false) 3, f.f.ns = 0) := by decide +kernel
example : ∃ f, (elemFields (mini false) 1)[0]? = some f ∧
    resolveElem ([] ++ (mini false).rootDecls) ⟨1, 3⟩ = some f.f.ns := ⟨_, rfl, by decide +kernel⟩
example : (mini false).xsiPrefix ≠ 0 ∧ (mini false).rootDecls.lookup (mini false).xsiPrefix = none ∧
    (mini true).rootDecls.lookup (mini true).xsiPrefix = some (mini true).xsiNs := by decide +kernel
example : WellTyped (mini false) miniDoc ∧ WellTyped (mini false) miniDocInformal := by
  unfold WellTyped; decide +kernel

/-! ### value-typed expression fields (the second defect of /repo as first extracted) -/

/-- as `mini`, but the flow-like struct 1 holds its expression BY VALUE (`From AnExpression`, as
`Assignment.from`, `ConditionalEventDefinition.condition`, … in /repo); `byValue` says whether
`AnExpression.MarshalXML` has a value receiver. The `xsi` prefix is declared here. -/
def mini2 (byValue : Bool) : Schema := {
  structs := [
    ⟨12, [⟨102,0,2,.attr,true,.ptr,9⟩, ⟨111,1,11,.elem,false,.slice,1⟩], .pre, false, .none, 0, none, some [111], false⟩,
    ⟨1, [⟨102,0,2,.attr,true,.ptr,9⟩, ⟨103,1,3,.elem,false,.val,2⟩], .pre, false, .none, 1, none, some [103], true⟩,
    ⟨8, [⟨105,0,5,.elem,false,.val,8⟩], .anExpr, byValue, .anExpr, 2, none, some [105], false⟩,
    ⟨4, [⟨102,0,2,.attr,true,.ptr,9⟩, ⟨106,0,6,.attr,true,.ptr,9⟩, ⟨107,0,7,.chardata,false,.ptr,9⟩], .pre, false, .none, 3, some 107, some [], true⟩,
    ⟨5, [⟨102,0,2,.attr,true,.ptr,9⟩, ⟨107,0,7,.chardata,false,.ptr,9⟩], .pre, false, .none, 4, some 107, some [], true⟩],
  nsPrefix := [(1, 1)],
  rootDecls := [(1, 1), (2, 2)],
  xsiPrefix := 2, typeLocal := 9, xsiNs := 2,
  anExprTy := 2, formalTy := 3, informalTy := 4,
  rootTy := 0, rootPrefix := 1, rootLocal := 10,
  simpleMarshal := [], formalValue := "tFormalExpression", informalValue := "tExpression" }

def miniDoc2 : Node :=
  .mk 0 [some "D"] [[.mk 1 [some "a1"] [[.mk 3 [some "e", some "lang"] [] "1+1"]] ""]] ""

/-- **Counterexample (value-typed expression field).** With a pointer-receiver `AnExpression.MarshalXML` (as in /repo
when first extracted; `C15Current.current_value_fields_dichotomy` says which side /repo is on) the expression of a
value-typed field is written as a nested
`<Expression>` element by the default rules and the decoder returns an empty informal expression:
id, language, text and formal kind are all lost — although `xsi` is declared and the table is
well-formed. -/
theorem C15_counterexample_value_field :
    xsiDeclaredB (mini2 false) = true ∧ wfB (mini2 false) = true ∧ valueExprFields (mini2 false) ≠ [] ∧
    parse (mini2 false) (marshal (mini2 false) id miniDoc2) =
      some (.mk 0 [some "D"] [[.mk 1 [some "a1"] [[.mk 4 [none] [] ""]] ""]] "") := by
  decide +kernel

/-- the table check also rejects the value-typed expression field under a pointer receiver -/
theorem mini2_table_check : rtTableB (mini2 false) = false ∧ rtTableB (mini2 true) = true := by
  decide +kernel

/-- with a value receiver the same document round-trips -/
theorem mini2_roundtrip_by_value :
    valueExprFields (mini2 true) = [] ∧
    parse (mini2 true) (marshal (mini2 true) id miniDoc2) = some (normRoot (mini2 true) id miniDoc2) := by
  decide +kernel

example : WellTyped (mini2 false) miniDoc2 := by unfold WellTyped; decide +kernel

end Bpmn.Props.C15
