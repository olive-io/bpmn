import Bpmn.Lemmas.CompletionSafety
import Bpmn.Lemmas.CompletionLive
import Bpmn.Lemmas.CompletionStuck
/-!
# C02 — completion is reported iff all start events fired and no token remains

Model: `Bpmn.Model.Completion` (a port of `StartAll`/`StartWith`, the cease-flow monitor(s),
the tracer's broadcast with bounded subscriber buffers, the completion lock and `WaitUntilComplete`, with an explicit
scheduler choice). Every theorem quantifies over all schedules (`Reachable`), hence over all interleavings of start-up,
token progress and monitor subscription and over all histories of calls (repeated, concurrent, expired).
The facts `subBefore`, `perStart`, `sigCap`, `subBuf` are regenerated from /repo (`Bpmn.Gen.C02`).
-/
namespace Bpmn.Props.C02
open Bpmn.Model.Completion

/-- **cease_sound.** In every reachable state, under every schedule and whatever the facts are:
(1) a choice that emits the cease-flow trace is taken in a state in which every start event has fired and reported it
    and the wait-group counter is 0;
(2) once a cease trace is in the log, that stays so (no token can appear any more);
(3) each monitor emits it at most once: the number of cease traces is the number of monitors that got past `ceasing`,
    at most the number of monitors;
(4) nothing follows the first cease trace in the trace stream but cease traces and traces of goroutines that are not
    counted by the wait group (`LogOk`); there are none of the latter unless the fact `detached` holds, and then
    nothing but cease traces follows (`cease_last`). -/
theorem cease_sound (P : Params) (hn : 1 ≤ P.n) (s : St) (hr : Reachable P s) :
    (∀ c, ceases (step P s c) ≠ ceases s → quiet P s) ∧
    (Trace.cease ∈ s.log → quiet P s) ∧
    (ceases s = s.mons.countP (fun m => m.pc.pastCease) ∧ ceases s ≤ s.mons.length) ∧
    LogOk s.log := by
  have I := inv_reachable hn hr
  refine ⟨?_, quiet_of_cease I.log I.pc, ⟨I.log.cnt, ?_⟩, I.log.ok⟩
  · intro c hc
    rcases step_spec P s c with e | st
    · rw [e] at hc; exact absurd rfl hc
    · -- the only choice that adds a cease trace is a monitor in `ceasing`
      generalize step P s c = s' at hc st
      cases st with
      | cease hm hpc => exact I.pc.past _ _ hm (by rw [hpc]; rfl)
      | startTrace | other | strayTrace => exact absurd (by simp [ceases]) hc
      | _ => exact absurd rfl hc
  · rw [I.log.cnt]; exact List.countP_le_length

/-- **wait_sound.** A `WaitUntilComplete` call issued after `StartAll` returned returns true only after a cease-flow
trace has been emitted — under every schedule, whatever the facts, for any number of earlier, concurrent or expired
calls. -/
theorem wait_sound (P : Params) (hn : 1 ≤ P.n) (s : St) (hr : Reachable P s) :
    ∀ x ∈ s.waits, x.early = false → x.caller = .gotTrue → Trace.cease ∈ s.log ∧ quiet P s := by
  intro x hx he hg
  have I := inv_reachable hn hr
  have hd : x.helper = .done := (I.wait x hx).done (.inl hg)
  have hc := (I.wait x hx).cease he (by rw [hd]; nofun)
  exact ⟨hc, quiet_of_cease I.log I.pc hc⟩

/-- the hypothesis of `wait_sound` is needed: a call issued while `StartAll` is still running can find the lock free
and return true before anything has happened (today's facts, one start event) -/
example :
    let P : Params := { subBefore := false, perStart := true, sigCap := 0, subBuf := 10, detached := true, n := 1 }
    let s := run P (init P) [.call, .helper 0, .helper 0]
    (s.waits.map (·.caller)) = [.gotTrue] ∧ s.log = [] := by decide

/-- at most one cease trace per monitor, and `StartAll` creates `monitorsPerStartAll` monitors: with one monitor
the cease-flow trace appears at most once, in every run -/
theorem cease_at_most_monitors (P : Params) (hn : 1 ≤ P.n) (s : St) (hr : Reachable P s) :
    ceases s ≤ s.mons.length ∧ s.mons.length ≤ P.monitorsPerStartAll := by
  have := monsLen_reachable hn hr
  exact ⟨(cease_sound P hn s hr).2.2.1.2, by omega⟩

/-- the cease-flow trace comes after every other trace of the instance, provided no goroutine outside the wait group
sends traces (`detached = false`) -/
theorem cease_last (P : Params) (hn : 1 ≤ P.n) (hd : P.detached = false) (s : St) (hr : Reachable P s) :
    LogStrict s.log :=
  logStrict_of (cease_sound P hn s hr).2.2.2 (noStray_reachable hd hr).2

/-! ## Liveness as bounded progress, under the three facts

`mu` (`Bpmn.Lemmas.CompletionLive`) bounds the number of moves the engine's goroutines still have to make: twice the
number of subscribers the running broadcast still has to serve, plus, for the monitor, the traces in its buffer and the
program points it still has to pass, plus, for every call, 2/1/0 for a helper that still has to lock / signal / nothing
and 1 for a caller still in its `select`. `effective` counts the choices of engine goroutines in a schedule that moved;
`calls` the new `WaitUntilComplete` calls. -/

def Live (P : Params) : Prop :=
  -- `StartAll` is never blocked for good
  (∀ s, Reachable P s → ∃ sched, (run P s sched).returned = true) ∧
  -- from every state in which every start event has fired and no token is left
  (∀ s, Reachable P s → quiet P s →
    -- (1) unless the protocol is finished, some engine goroutine can move, and its move counts the measure down
    (¬ Finished s → ∃ c, c.internal = true ∧ mu (step P s c) < mu s) ∧
    -- (2) for every schedule and every history of calls (new calls add 3, expiries nothing, stuttering nothing)
    (∀ sched, mu (run P s sched) + effective P s sched ≤ mu s + 3 * calls sched) ∧
    -- (3) hence after `mu s + 3 * calls` effective moves the cease trace is out, the lock is free and every present and
    --     future call has returned (true, unless its own context expired first)
    (∀ sched, mu s + 3 * calls sched ≤ effective P s sched → Finished (run P s sched)) ∧
    -- (4) in particular completion is reachable
    (∃ sched, Finished (run P s sched)))

theorem complete_live (P : Params)
    (h : P.subBefore = true ∧ P.monitorsPerStartAll = 1 ∧ 1 ≤ P.sigCap) (hb : 1 ≤ P.subBuf) (hn : 1 ≤ P.n) :
    Live P := by
  have hL : LiveHyp P := ⟨h.1, h.2.1, h.2.2, hb, hn⟩
  refine ⟨fun s hr => live_can_return (liveCtx_of_reachable hL hr), fun s hr hq => ?_⟩
  have ctx := liveCtx_of_reachable hL hr
  refine ⟨live_progress ctx hq, live_bound ctx hq, fun sched hs => ?_, live_can_finish ctx hq⟩
  have := live_bound ctx hq sched
  exact finished_of_mu_zero (liveCtx_run ctx sched) (quiet_run ctx hq sched) (by omega)

theorem finished_callers (s : St) (h : Finished s) : ∀ x ∈ s.waits, x.caller = .gotTrue ∨ x.caller = .expired := by
  intro x hx
  have := (h.2.2 x hx).2
  cases hc : x.caller <;> simp_all

def missedSched : List Choice := [.starter, .fire, .startTrace, .death, .starter, .starter]

/-- **D3.** `subscribeBeforeTrigger = false`, one start event: the start event's flow trace is broadcast (to nobody)
before the monitor subscribes. `StartAll` returns, every start event has fired, no token is left — and under every
continuation no cease trace is ever emitted and no call ever returns true. Whatever the other facts are. -/
def MissedStartWitness (P : Params) : Prop :=
  ∃ s, Reachable P s ∧ s.returned = true ∧ quiet P s ∧ Starved P s ∧
    ∀ sched, ceases (run P s sched) = 0 ∧ (∀ x ∈ (run P s sched).waits, x.caller ≠ .gotTrue) ∧
      ¬ Finished (run P s sched)

theorem C02_counterexample_missed_start (ps : Bool) (cap buf : Nat) (det : Bool) :
    MissedStartWitness ⟨false, ps, cap, buf, det, 1⟩ := by
  let P : Params := ⟨false, ps, cap, buf, det, 1⟩
  show MissedStartWitness P
  let P0 : Params := ⟨false, ps, 0, 10, det, 1⟩
  have hbase : Starved P0 (run P0 (init P0) missedSched) ∧ quiet P0 (run P0 (init P0) missedSched) ∧
      (run P0 (init P0) missedSched).returned = true := by cases ps <;> cases det <;> decide
  have hrun : run P (init P) missedSched = run P0 (init P0) missedSched :=
    run_caps P0 cap buf (init P) missedSched (by decide)
  have hS0 := hbase.1
  have hS : Starved P (run P (init P) missedSched) := by
    rw [hrun]; exact ⟨hS0.prog, hS0.mons, hS0.lock, hS0.noCease, hS0.waits⟩
  have hr : Reachable P (run P (init P) missedSched) := ⟨missedSched, rfl⟩
  refine ⟨_, hr, by rw [hrun]; exact hbase.2.2, by rw [hrun]; exact hbase.2.1, hS, fun sched => ?_⟩
  have hS' := inv_run_preserves starved_step (inv_reachable (Nat.le_refl 1) hr) hS sched
  have hnc : ceases (run P (run P (init P) missedSched) sched) = 0 := by
    simpa [ceases, List.count_eq_zero] using hS'.noCease
  exact ⟨hnc, fun x hx => (hS'.waits x hx).2.1, fun hf => hS'.noCease hf.1⟩

def rep {α : Type} (k : Nat) (l : List α) : List α := (List.replicate k l).flatten

/-- up to here the tracer has accepted `subBuf` = 10 traces since the second monitor subscribed, and is idle -/
def twoStartsPre (sb : Bool) : List Choice :=
  if sb then
    [.starter, .starter, .starter, .starter, .fire, .startTrace, .deliver, .deliver, .mon 0] ++
      rep 9 [.other, .deliver, .deliver, .mon 0]
  else
    [.starter, .starter, .starter, .starter, .starter, .fire, .fire, .startTrace, .deliver, .deliver,
      .startTrace, .deliver, .deliver, .mon 0, .mon 0, .mon 0, .mon 0] ++ rep 8 [.other, .deliver]

/-- the eleventh trace -/
def twoStartsLast (sb : Bool) : List Choice := if sb then [.other, .deliver, .deliver] else [.other, .deliver]

/-- **D4.** `monitorPerStartWith = true`, two start events, subscriber buffers of 10: the second `StartWith` subscribes
and then blocks in `complete.Lock()` (the first monitor holds the lock), so nobody reads its subscription. The first
10 traces after that subscription fit into its buffer and the tracer stays idle; the 11th trace is accepted by the
tracer and never leaves it: from then on, under every continuation, `StartAll` does not return, the tracer accepts
no further trace (the log is frozen, so no cease trace either) and no call returns true. For both orders of
Subscribe/Trigger and any signal capacity. -/
def TwoStartsWitness (P : Params) : Prop :=
  let s10 := run P (init P) (twoStartsPre P.subBefore)
  let s := run P s10 (twoStartsLast P.subBefore)
  (s10.pending = none ∧ (s10.mons.map (·.buf.length)) = [0, P.subBuf] ∧ s10.log.length = P.subBuf) ∧
  (s.log.length = P.subBuf + 1 ∧ Reachable P s ∧ TracerStuck P s 0 1) ∧
  ∀ sched, (run P s sched).returned = false ∧ (run P s sched).log = s.log ∧
    (∀ x ∈ (run P s sched).waits, x.caller ≠ .gotTrue)

theorem C02_counterexample_two_starts (sb : Bool) (cap : Nat) (det : Bool) :
    TwoStartsWitness ⟨sb, true, cap, 10, det, 2⟩ := by
  let P : Params := ⟨sb, true, cap, 10, det, 2⟩
  show TwoStartsWitness P
  unfold TwoStartsWitness
  intro s10 s
  let P0 : Params := ⟨sb, true, 0, 10, det, 2⟩
  have hrun : ∀ sched, (∀ c ∈ sched, c.isHelper = false) → run P (init P) sched = run P0 (init P0) sched :=
    fun sched h => run_sigCap P0 cap (init P) sched h
  have h10 : s10 = run P0 (init P0) (twoStartsPre sb) := hrun (twoStartsPre sb) (by cases sb <;> decide)
  have hs : s = run P0 (init P0) (twoStartsPre sb ++ twoStartsLast sb) := by
    show run P (run P (init P) (twoStartsPre sb)) (twoStartsLast sb) = _
    rw [← run_append]; exact hrun (twoStartsPre sb ++ twoStartsLast sb) (by cases sb <;> decide)
  have hbase : ((run P0 (init P0) (twoStartsPre sb)).pending = none ∧
      ((run P0 (init P0) (twoStartsPre sb)).mons.map (·.buf.length)) = [0, 10] ∧
      (run P0 (init P0) (twoStartsPre sb)).log.length = 10) ∧
      (run P0 (init P0) (twoStartsPre sb ++ twoStartsLast sb)).log.length = 11 ∧
      TracerStuck P0 (run P0 (init P0) (twoStartsPre sb ++ twoStartsLast sb)) 0 1 := by
    cases sb <;> cases det <;> decide +kernel
  have hr : Reachable P s := ⟨twoStartsPre sb ++ twoStartsLast sb, (run_append P _ _ _)⟩
  have hT0 := hbase.2.2
  have hT : TracerStuck P s 0 1 := by
    rw [hs]; exact ⟨hT0.prog, hT0.pend, hT0.full, hT0.lock, hT0.holder, hT0.waits⟩
  refine ⟨by rw [h10]; exact hbase.1, ⟨by rw [hs]; exact hbase.2.1, hr, hT⟩, fun sched => ?_⟩
  obtain ⟨hT', hlog⟩ := inv_run_preserves tracerStuck_step (inv_reachable (Nat.le_succ 1) hr) ⟨hT, rfl⟩ sched
  refine ⟨?_, hlog, fun x hx => (hT'.waits x hx).2.1⟩
  have := hT'.prog
  cases hp : (run P s sched).prog with
  | nil => simp [hp] at this
  | cons a r => simp [St.returned, hp]

def expiredSched : List Choice :=
  [.starter, .starter, .starter, .fire, .startTrace, .deliver, .call, .expire 0, .death,
   .mon 0, .mon 0, .mon 0, .mon 0, .mon 0, .mon 0, .helper 0, .helper 0]

/-- **D2.** `waitSignalCap = 0`, one start event: a call issued while the token is alive gives up (context expiry);
its helper keeps waiting for the lock, gets it once the monitor has emitted the cease trace and released it, and then
blocks for ever in `signal <- true` holding the lock. The instance is complete (cease trace out, no token) — and under
every continuation the lock is never free again and no call, present or future, returns true. For both orders of
Subscribe/Trigger and both ways of creating the monitor. -/
def ExpiredWaitWitness (P : Params) : Prop :=
  let s := run P (init P) expiredSched
  Reachable P s ∧ quiet P s ∧ Trace.cease ∈ s.log ∧ HelperStuck P s 0 ∧ trueCount s = 0 ∧
  ∀ sched, (run P s sched).lock = some (.helper 0) ∧ trueCount (run P s sched) = 0 ∧ ¬ Finished (run P s sched)

theorem C02_counterexample_expired_wait (sb ps det : Bool) : ExpiredWaitWitness ⟨sb, ps, 0, 10, det, 1⟩ := by
  let P : Params := ⟨sb, ps, 0, 10, det, 1⟩
  show ExpiredWaitWitness P
  unfold ExpiredWaitWitness
  intro s
  have hbase : HelperStuck P s 0 ∧ quiet P s ∧ Trace.cease ∈ s.log ∧ trueCount s = 0 := by
    cases sb <;> cases ps <;> cases det <;> decide +kernel
  have hr : Reachable P s := ⟨expiredSched, rfl⟩
  have hH := hbase.1
  refine ⟨hr, hbase.2.1, hbase.2.2.1, hH, hbase.2.2.2, fun sched => ?_⟩
  obtain ⟨hH', htc⟩ :=
    inv_run_preserves helperStuck_step (inv_reachable (Nat.le_refl 1) hr) ⟨hH, hbase.2.2.2⟩ sched
  exact ⟨hH'.lock, htc, fun hf => by have := hf.2.1; rw [hH'.lock] at this; cases this⟩

def lateTraceSched : List Choice :=
  [.starter, .starter, .starter, .fire, .spawnStray, .startTrace, .deliver, .death,
   .mon 0, .mon 0, .mon 0, .mon 0, .mon 0, .mon 0, .strayTrace]

def LateTraceWitness (P : Params) : Prop :=
  ∃ s, Reachable P s ∧ s.log = [.stray, .cease, .start] ∧ ¬ LogStrict s.log

/-- **D33.** `detached = true` (`harness.run` hands the answer to the token and only then announces the end of the
boundary phase from its own goroutine): that trace can be broadcast after the cease-flow trace, even with the other
three facts repaired. -/
theorem C02_counterexample_late_boundary_trace (ps : Bool) (cap : Nat) :
    LateTraceWitness ⟨true, ps, cap, 10, true, 1⟩ := by
  let P : Params := ⟨true, ps, cap, 10, true, 1⟩
  let P0 : Params := ⟨true, ps, 0, 10, true, 1⟩
  have hrun : run P (init P) lateTraceSched = run P0 (init P0) lateTraceSched :=
    run_sigCap P0 cap (init P) lateTraceSched (by decide)
  have hlog : (run P0 (init P0) lateTraceSched).log = [.stray, .cease, .start] := by cases ps <;> decide
  have hlogP : (run P (init P) lateTraceSched).log = [.stray, .cease, .start] := by rw [hrun]; exact hlog
  refine ⟨run P (init P) lateTraceSched, ⟨lateTraceSched, rfl⟩, hlogP, ?_⟩
  rw [hlogP]
  intro h
  have := h.1 (by simp)
  cases this

/-- the facts about the code the model is parametric in -/
structure Facts where
  subBefore : Bool
  perStart : Bool
  sigCap : Nat
  subBuf : Nat
  detached : Bool
deriving DecidableEq, Repr

def Facts.at (F : Facts) (n : Nat) : Params := ⟨F.subBefore, F.perStart, F.sigCap, F.subBuf, F.detached, n⟩

/-- safety half: the cease trace only when every start event has fired and no token is left, at most once per monitor,
last in the trace stream; a call (issued after `StartAll` returned) returns true only after it -/
def Safe (P : Params) : Prop :=
  ∀ s, Reachable P s →
    (∀ c, ceases (step P s c) ≠ ceases s → quiet P s) ∧
    (Trace.cease ∈ s.log → quiet P s) ∧
    (ceases s ≤ s.mons.length ∧ s.mons.length ≤ P.monitorsPerStartAll) ∧
    LogOk s.log ∧
    (∀ x ∈ s.waits, x.early = false → x.caller = .gotTrue → Trace.cease ∈ s.log)

def C02_statementFor (P : Params) : Prop :=
  Safe P ∧ Live P ∧
  -- exactly once
  (∀ s, Reachable P s → ceases s ≤ 1) ∧
  -- after every other trace of the instance
  (∀ s, Reachable P s → LogStrict s.log)

def C02_statement (F : Facts) : Prop := ∀ n, 1 ≤ n → C02_statementFor (F.at n)

theorem C02_safe (P : Params) (hn : 1 ≤ P.n) : Safe P := by
  intro s hr
  obtain ⟨a, b, c, d⟩ := cease_sound P hn s hr
  exact ⟨a, b, cease_at_most_monitors P hn s hr, d, fun x hx he hg => (wait_sound P hn s hr x hx he hg).1⟩

def C02ok (F : Facts) : Bool :=
  F.subBefore && !F.perStart && decide (1 ≤ F.sigCap) && decide (1 ≤ F.subBuf) && !F.detached

/-- C02 for one process: the three facts, where "one monitor" may also come from having a single start event -/
theorem C02_for_partial (P : Params) (h : P.subBefore = true ∧ P.monitorsPerStartAll = 1 ∧ 1 ≤ P.sigCap)
    (hb : 1 ≤ P.subBuf) (hd : P.detached = false) (hn : 1 ≤ P.n) : C02_statementFor P := by
  refine ⟨C02_safe P hn, complete_live P h hb hn, fun s hr => ?_, cease_last P hn hd⟩
  have := cease_at_most_monitors P hn s hr
  omega

/-- **C02 holds on the model under the hypothesis that excludes the three witnesses** (monitor subscribed before
`Trigger`, one monitor per instance, buffered signal): for every number of start events, every schedule, every history
of calls. -/
theorem C02_holds_partial (F : Facts) (h : C02ok F = true) : C02_statement F := by
  simp only [C02ok, Bool.and_eq_true, Bool.not_eq_true', decide_eq_true_eq] at h
  obtain ⟨⟨⟨⟨h1, h2⟩, h3⟩, h4⟩, h5⟩ := h
  intro n hn
  exact C02_for_partial (F.at n) ⟨h1, by simp [Facts.at, Params.monitorsPerStartAll, h2], h3⟩ h4 h5 hn

/-- with the monitor still created per `StartWith`, C02 holds for processes with ONE start event as soon as the other
two facts are repaired -/
theorem C02_single_start_partial (F : Facts) (h1 : F.subBefore = true) (h3 : 1 ≤ F.sigCap) (h4 : 1 ≤ F.subBuf)
    (h5 : F.detached = false) : C02_statementFor (F.at 1) :=
  C02_for_partial (F.at 1) ⟨h1, by unfold Params.monitorsPerStartAll Facts.at; split <;> rfl, h3⟩ h4 h5 (Nat.le_refl 1)

theorem missed_start_at (F : Facts) (h : F.subBefore = false) : MissedStartWitness (F.at 1) := by
  obtain ⟨sb, ps, cap, buf, det⟩ := F
  simp only at h; subst h
  exact C02_counterexample_missed_start ps cap buf det

theorem two_starts_at (F : Facts) (h : F.perStart = true) (hb : F.subBuf = 10) : TwoStartsWitness (F.at 2) := by
  obtain ⟨sb, ps, cap, buf, det⟩ := F
  simp only at h hb; subst h; subst hb
  exact C02_counterexample_two_starts sb cap det

theorem expired_wait_at (F : Facts) (h : F.sigCap = 0) (hb : F.subBuf = 10) : ExpiredWaitWitness (F.at 1) := by
  obtain ⟨sb, ps, cap, buf, det⟩ := F
  simp only at h hb; subst h; subst hb
  exact C02_counterexample_expired_wait sb ps det

theorem late_trace_at (F : Facts) (h1 : F.subBefore = true) (h5 : F.detached = true) (hb : F.subBuf = 10) :
    LateTraceWitness (F.at 1) := by
  obtain ⟨sb, ps, cap, buf, det⟩ := F
  simp only at h1 h5 hb; subst h1; subst h5; subst hb
  exact C02_counterexample_late_boundary_trace ps cap

/-- processes with one start event: false on the model as soon as the monitor subscribes late or the signal is
unbuffered, however the monitor is created -/
theorem C02_single_start_cex (F : Facts) (hb : F.subBuf = 10)
    (h : ¬ (F.subBefore = true ∧ 1 ≤ F.sigCap ∧ F.detached = false)) : ¬ C02_statementFor (F.at 1) := by
  intro hst
  by_cases h1 : F.subBefore = true
  · by_cases h2 : 1 ≤ F.sigCap
    · have h5 : F.detached = true := by
        cases hd : F.detached with
        | true => rfl
        | false => exact absurd ⟨h1, h2, hd⟩ h
      obtain ⟨s, hr, _, hns⟩ := late_trace_at F h1 h5 hb
      exact hns (hst.2.2.2 s hr)
    · obtain ⟨hr, hq, _, _, _, hall⟩ := expired_wait_at F (by omega) hb
      obtain ⟨sched, hf⟩ := (hst.2.1.2 _ hr hq).2.2.2
      exact (hall sched).2.2 hf
  · obtain ⟨s, hr, _, hq, _, hall⟩ := missed_start_at F (by simpa using h1)
    obtain ⟨sched, hf⟩ := (hst.2.1.2 s hr hq).2.2.2
    exact (hall sched).2.2 hf

/-- **the full statement is false on the faithful model whenever a fact points the wrong way** (subscriber buffers as
in the code: 10) -/
theorem C02_cex (F : Facts) (hb : F.subBuf = 10) (h : C02ok F = false) : ¬ C02_statement F := by
  intro hst
  by_cases h2 : F.perStart = true
  · -- D4: two start events
    obtain ⟨_, ⟨_, hr, _⟩, hall⟩ := two_starts_at F h2 hb
    obtain ⟨sched, hret⟩ := (hst 2 (by decide)).2.1.1 _ hr
    exact Bool.noConfusion ((hall sched).1.symm.trans hret)
  · -- D3, D2, D33: one start event is enough
    refine C02_single_start_cex F hb (fun h' => ?_) (hst 1 (Nat.le_refl 1))
    simp [C02ok, h', h2, hb] at h

/-- today's code: all four facts point the wrong way -/
theorem C02_not_holds_today : ¬ C02_statement ⟨false, true, 0, 10, true⟩ := C02_cex _ rfl (by decide)

/-! ## Non-vacuity (tests, not the claim) -/

/-- the hypotheses of `complete_live` / `C02_holds_partial` are satisfiable, and reachable quiet states exist -/
example : C02ok ⟨true, false, 1, 10, false⟩ = true := by decide
example :
    let P : Params := ⟨true, false, 1, 10, false, 2⟩
    let s := run P (init P) [.starter, .starter, .starter, .starter, .fire, .fire, .startTrace, .deliver,
      .startTrace, .deliver, .death, .death, .call, .call, .expire 0]
    quiet P s ∧ mu s = 12 ∧ ¬ Finished s := by
  refine ⟨by decide, by decide, fun h => ?_⟩
  have := h.1; revert this; decide
/-- … and from there a fair schedule finishes: the cease trace is out once, the expired caller stays expired (its helper
leaves its value in the buffered channel and releases the lock), the other caller gets true -/
example :
    let P : Params := ⟨true, false, 1, 10, false, 2⟩
    let s := run P (init P) [.starter, .starter, .starter, .starter, .fire, .fire, .startTrace, .deliver,
      .startTrace, .deliver, .death, .death, .call, .call, .expire 0,
      .mon 0, .mon 0, .mon 0, .mon 0, .mon 0, .mon 0, .mon 0, .helper 0, .helper 0, .helper 1, .helper 1, .recv 1]
    ceases s = 1 ∧ s.lock = none ∧ s.waits.map (·.caller) = [.expired, .gotTrue] ∧ mu s = 0 := by decide
/-- hypotheses of `wait_sound`: a non-early call that got true exists in a reachable state -/
example :
    let P : Params := ⟨true, false, 1, 10, false, 1⟩
    let s := run P (init P) [.starter, .starter, .starter, .fire, .startTrace, .deliver, .death,
      .mon 0, .mon 0, .mon 0, .mon 0, .mon 0, .mon 0, .call, .helper 0, .helper 0, .recv 0]
    s.waits.map (fun x => (x.early, x.caller)) = [(false, .gotTrue)] ∧ Trace.cease ∈ s.log := by decide

end Bpmn.Props.C02
