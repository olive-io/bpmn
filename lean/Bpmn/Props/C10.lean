import Bpmn.Lemmas.Boundary
/-!
# C10 — Boundary events: interrupting replaces the normal flow, non-interrupting adds

The model (`Bpmn.Model.Boundary`) is a port of what /repo does, parametric in the extracted facts `Cfg`. Every
statement below quantifies over ALL numbers and kinds of boundary events, all runs (= all schedules of the atomic
steps, all interleavings of {activate, deliver i, answer} with the internal steps, repeated events included) of one
host activity (task or sub-process: they share the cancel protocol).

The three target statements, as the property demands them:

* `boundary_interrupting` — an event matched by an interrupting boundary event while the host waits for its answer:
  the exception flow continues exactly once and the normal flow never, whatever follows (an answer included);
* `boundary_non_interrupting` — at quiescence every non-interrupting boundary event has continued its exception flow
  once per event that reached it, and the normal flow has continued if the host was answered;
* `boundary_inert_after_completion` — once the host has completed nothing reacts any more and the boundary events
  hold no token of the instance's wait group.

What is proved:

* `C10_counterexample_interrupting` — FALSE for every value of the facts (D7): the activity's cancel never stops a
  request in flight; `normal_flow_unstoppable`, `answered_then_normal` say so for every reachable state and schedule.
  `interrupting_partial` keeps what is true: the exception flow continues exactly once.
* `C10_counterexample_second_event` — FALSE for every value of the facts (D28): the listener's flow moves on and the catch
  event is never re-armed, so only the FIRST event continues the exception flow. `non_interrupting_partial`: at
  quiescence `conts + dropped = got` (so "once per event" holds exactly when no event was dropped) and the normal
  flow continues on answer.
* for `boundary_inert_after_completion`, a dichotomy in two facts: no reaction iff events are gated by `active`
  (`inert_no_reaction` / `C10_counterexample_ungated`); no wait-group contribution iff the listener flows do not
  share the instance wait group (`inert_wg_unshared` / `C10_counterexample_armed_listener`, D8);
  `inert_partial`: with the shared wait group the contribution is zero exactly when every listener has fired.
* `C10_counterexample_cancel_before_request` (D30) / `host_always_requested` — a dichotomy in the order of the harness's
  two activation statements (fact `early`) and the gate: with `active := 1` stored BEFORE `activity.NextAction` (as
  in `Cfg.code`) an interrupting event that arrives between the two strands the host: it is never executed and its
  token never leaves; with the other order (and the gate) the host is requested on every schedule.
  `host_requested_partial` is the exact excluding hypothesis for any facts.
* `handover_inactive`, `handover_inert` / `C10_counterexample_late_reset` — a dichotomy in the order of the answer
  relay's `active := 0` and `out <- rsp` (fact `resetFirst`): reset first (as in `Cfg.code`) — once the token holds
  the answer no event reaches a boundary event, on EVERY schedule; reset afterwards — an event delivered after the
  host has completed still continues the exception flow.
* `exception_progress` / `C10_counterexample_no_once` — the `cancellation` once is what keeps a second interrupting
  listener from waiting forever for a verdict of an activity whose run loop has exited.
-/
namespace Bpmn.Props.C10
open Bpmn.Model.Boundary

def contsAt (s : St) (i : Nat) : Nat := (s.ls[i]?.map (·.conts)).getD 0

def boundary_interrupting (cfg : Cfg) : Prop :=
  ∀ (kinds : List Bool) (s1 : St) (i : Nat) (l : Listener), Reach cfg kinds s1 →
    s1.req = .pending → s1.ls[i]? = some l → l.interrupting = true → l.phase = .armed → 0 < l.inbox →
    ∀ (tr : List Label) (s2 : St), run cfg s1 (.catchTake i :: tr) = some s2 →
      contsAt s2 i ≤ 1 ∧ (quiet cfg s2 = true → contsAt s2 i = 1) ∧ s2.normal = 0

def boundary_non_interrupting (cfg : Cfg) : Prop :=
  ∀ (kinds : List Bool) (s : St), Reach cfg kinds s → quiet cfg s = true →
    (∀ l ∈ s.ls, l.interrupting = false → l.conts = l.got) ∧ (Req.answered.rank ≤ s.req.rank → s.normal = 1)

def boundary_inert_after_completion (cfg : Cfg) : Prop :=
  ∀ (kinds : List Bool) (s : St), Reach cfg kinds s → quiet cfg s = true → s.req = .done →
    (∀ (tr : List Label) (s' : St), run cfg s tr = some s' → s' = s) ∧ wgListeners cfg s = 0

/-- the full property, kept visible: it does NOT hold of the code (see the counterexamples) -/
def C10_statement (cfg : Cfg) : Prop :=
  boundary_interrupting cfg ∧ boundary_non_interrupting cfg ∧ boundary_inert_after_completion cfg

/-- whatever the listeners, the once and the activity's run loop did: a host that waits for its answer continues on
its normal flow when answered (in the late-activation order the harness may still have to execute its second
statement before its forwarder exists) -/
theorem normal_flow_unstoppable (cfg : Cfg) (kinds : List Bool) (s : St) (hr : Reach cfg kinds s) (h : s.req = .pending) :
    ∃ tr s', run cfg s (.answer :: .respond :: tr ++ [.hostTake]) = some s' ∧ s'.normal = s.normal + 1 := by
  have g := reach_ginv hr
  -- the relay's part, once both activation statements have run
  have relay (s1 : St) (hresp : s1.req = .responded) (hst : s1.hStage = 2) (hcl : s1.cleared = false) :
      ∃ tr s', run cfg s1 (tr ++ [.hostTake]) = some s' ∧ s'.normal = s1.normal + 1 := by
    cases hrf : cfg.resetFirst
    · exact ⟨[.forward], _, (Step.forward hresp hst (by simp [hrf])).run ((Step.hostTake rfl).run rfl), rfl⟩
    · exact ⟨[.clear, .forward], _, (Step.clearFirst hcl hrf hresp hst).run
        ((Step.forward (s := { s1 with cleared := true, hActive := false }) hresp hst fun _ => rfl).run
          ((Step.hostTake rfl).run rfl)), rfl⟩
  have hcl : s.cleared = false := by
    cases hc : s.cleared
    · rfl
    · have := (g.clear hc).1; rw [h] at this; exact absurd this (by decide)
  have hstage := g.stage3 (by rw [h]; decide)
  have hle := g.stage2
  by_cases hst : s.hStage = 2
  · obtain ⟨tr, s', hrun, hn⟩ := relay { s with req := .responded } rfl hst hcl
    exact ⟨tr, s', (Step.answer h).run ((Step.respond rfl).run hrun), hn⟩
  · have he : cfg.early = false := by
      cases he : cfg.early
      · rfl
      · rw [he] at hstage; exact absurd hstage hst
    have h1 : s.hStage = 1 := by rw [he] at hstage; simp at hstage; omega
    obtain ⟨tr, s', hrun, hn⟩ := relay { s with req := .responded, hStage := 2, hActive := true } rfl rfl hcl
    exact ⟨.harnessActive :: tr, s', (Step.answer h).run ((Step.respond rfl).run
      ((Step.activeLate (s := { s with req := .responded }) he h1).run hrun)), hn⟩

/-- for every schedule: once the host was answered, at quiescence the normal flow has continued -/
theorem answered_then_normal (cfg : Cfg) (kinds : List Bool) (s : St) (hr : Reach cfg kinds s) (hq : quiet cfg s = true)
    (ha : Req.answered.rank ≤ s.req.rank) : s.normal = 1 := by
  have hn := (reach_ginv hr).normal
  rcases quiet_req hr hq with h | h | h | h <;> rw [h] at ha hn
  · exact absurd ha (by decide)
  · exact absurd ha (by decide)
  · exact absurd ha (by decide)
  · exact hn

/-- the answer relay's two statements (`active := 0`, `out <- rsp`), in the order of the source -/
def handover (cfg : Cfg) : List Label :=
  if cfg.resetFirst then [.clear, .forward] else [.forward, .clear]

/-- the harness's two activation statements, in the order of the source -/
def activation (cfg : Cfg) : List Label :=
  if cfg.early then [.harnessActive, .harnessCall] else [.harnessCall, .harnessActive]

def d7pre (cfg : Cfg) : List Label := .activate :: activation cfg ++ [.taskTake, .reqStart, .arm 0, .deliver 0]
def d7post (cfg : Cfg) : List Label :=
  [.transform 0, .taskTake, .move 0, .answer, .respond] ++ handover cfg ++ [.hostTake, .decrement]

theorem d7_witness : ∀ cfg : Cfg, (run cfg (init [true]) (d7pre cfg)).any (fun s1 => decide (
    s1.req = .pending ∧ s1.ls[0]? = some { interrupting := true, phase := .armed, inbox := 1, got := 1 } ∧
    (run cfg s1 (.catchTake 0 :: d7post cfg)).any (fun s2 => decide (
      s2.normal = 1 ∧ contsAt s2 0 = 1 ∧ quiet cfg s2 = true)) = true)) = true :=
  Cfg.forall (by decide +kernel)

/-- D7, for EVERY value of the extracted facts: one interrupting boundary event, the event arrives while the task
waits, the exception flow continues — and the normal flow continues as well when the task is answered afterwards -/
theorem C10_counterexample_interrupting (cfg : Cfg) : ¬ boundary_interrupting cfg := by
  intro h
  obtain ⟨s1, hr, hreq, hl, h2⟩ := witness (d7_witness cfg)
  obtain ⟨s2, hrun, hn⟩ := (Option.any_eq_true _ _).1 h2
  have := (h [true] s1 0 _ hr hreq hl rfl rfl (Nat.le_refl 1) (d7post cfg) s2 hrun).2.2
  rw [(of_decide_eq_true hn).1] at this
  cases this

/-- with the once, at quiescence every listener is unstarted, armed, or has moved on: none is stuck between the
match and the continuation -/
theorem exception_progress (cfg : Cfg) (hc : cfg.once = true) (kinds : List Bool) (s : St) (hr : Reach cfg kinds s)
    (hq : quiet cfg s = true) (i : Nat) (l : Listener) (hl : s.ls[i]? = some l) :
    l.phase = .idle ∨ l.phase = .armed ∨ l.phase = .moved := by
  obtain ⟨_, q2, q3, q4⟩ := quiet_listener hq (List.mem_of_getElem? hl)
  cases hp : l.phase with
  | idle => exact Or.inl rfl
  | armed => exact Or.inr (Or.inl rfl)
  | moved => exact Or.inr (Or.inr rfl)
  | starting => exact absurd hp q2
  | fired => exact absurd hp q3
  | ready => exact absurd hp q4
  | cancelling =>
    -- its cancel message is in the activity's inbox, so the run loop has not exited on it: `taskTake` is enabled
    exfalso
    have hmem := reach_cancel hr i l hl hp
    have hnc : 1 ≤ nc s.tq := List.countP_pos_iff.mpr ⟨_, hmem, rfl⟩
    rcases quiet_tq hq with ht | ht
    · rcases (reach_once hc hr).dead ht with hk | ⟨_, h0⟩
      · rcases quiet_req hr hq with h | h | h | h <;> rw [h] at hk
        · exact absurd ((reach_idle hr h l (List.mem_of_getElem? hl)).symm.trans hp) nofun
        all_goals exact absurd hk (by decide)
      · omega
    · rw [ht] at hmem; cases hmem

/-- what remains true of `boundary_interrupting`: the exception flow continues exactly once (never twice on any
schedule; once at quiescence) -/
theorem interrupting_partial (cfg : Cfg) (hc : cfg.once = true) (kinds : List Bool) (s1 : St) (i : Nat) (l : Listener)
    (hr : Reach cfg kinds s1) (hl : s1.ls[i]? = some l) (hp : l.phase = .armed) (hin : 0 < l.inbox)
    (tr : List Label) (s2 : St) (hrun : run cfg s1 (.catchTake i :: tr) = some s2) :
    contsAt s2 i ≤ 1 ∧ (quiet cfg s2 = true → contsAt s2 i = 1) := by
  have hr2 : Reach cfg kinds s2 := reach_run hr hrun
  -- the step itself: the listener fires; from then on its phase only advances
  obtain ⟨n, hn⟩ : ∃ n, l.inbox = n + 1 := ⟨l.inbox - 1, by omega⟩
  obtain ⟨s1', hs, hrun⟩ := run_cons_some hrun
  cases (step_iff.2 (Step.catchFire hl hn hp)).symm.trans hs
  obtain ⟨b, hb, hrank⟩ := run_listener_mono hrun (i := i) (a := { l with inbox := n, phase := .fired })
    (by simp [(List.getElem?_eq_some_iff.1 hl).1])
  have hinv := reach_linv hr2 b (List.mem_of_getElem? hb)
  have hc1 : contsAt s2 i = b.conts := by simp [contsAt, hb]
  rw [hc1, hinv.1]
  constructor
  · split <;> omega
  · intro hq
    -- `hrank`: the listener has fired, so it is neither idle nor armed (ranks 0, 2 < 3)
    rcases exception_progress cfg hc kinds s2 hr2 hq i b hb with h | h | h <;> simp [h, LPhase.rank] at hrank ⊢

def d28run (cfg : Cfg) : List Label :=
  .activate :: activation cfg ++ [.taskTake, .reqStart, .arm 0, .deliver 0, .catchTake 0, .transform 0, .move 0,
   .deliver 0, .catchTake 0]

theorem d28_witness : ∀ cfg : Cfg, (run cfg (init [false]) (d28run cfg)).any (fun s => decide (quiet cfg s = true ∧
    s.ls[0]? = some { interrupting := false, phase := .moved, got := 2, dropped := 1, conts := 1 })) = true :=
  Cfg.forall (by decide +kernel)

/-- D28, for every value of the facts: two events on a non-interrupting boundary event while the host waits continue the
exception flow once, not twice (the catch event is not re-armed) -/
theorem C10_counterexample_second_event (cfg : Cfg) : ¬ boundary_non_interrupting cfg := by
  intro h
  obtain ⟨s, hr, hq, hl⟩ := witness (d28_witness cfg)
  cases (h [false] s hr hq).1 _ (List.mem_of_getElem? hl) rfl

/-- at quiescence every event that reached a boundary event either continued the exception flow or was dropped
(looked at while the catch event was not activated: before arming, or after the first match); and an answered host
has continued on its normal flow. So `boundary_non_interrupting` holds exactly for the runs in which no event
was dropped. -/
theorem non_interrupting_partial (cfg : Cfg) (hc : cfg.once = true) (kinds : List Bool) (s : St)
    (hr : Reach cfg kinds s) (hq : quiet cfg s = true) :
    (∀ l ∈ s.ls, l.conts + l.dropped = l.got) ∧ (Req.answered.rank ≤ s.req.rank → s.normal = 1) := by
  refine ⟨?_, answered_then_normal cfg kinds s hr hq⟩
  intro l hl
  obtain ⟨i, hi⟩ := List.mem_iff_getElem?.mp hl
  have hinv := reach_linv hr l hl
  rw [hinv.1, hinv.2, (quiet_listener hq hl).1]
  -- idle, armed: nothing continued and nothing fired; moved: one continuation for the event that fired
  rcases exception_progress cfg hc kinds s hr hq i l hi with h | h | h <;> simp [h, LPhase.rank] <;> omega

/-- gated: from a quiescent state in which the host has completed every run leaves the state as it is (events are
not forwarded, nothing else is enabled) -/
theorem inert_no_reaction (cfg : Cfg) (hg : cfg.gated = true) (kinds : List Bool) (s : St) (hr : Reach cfg kinds s)
    (hq : quiet cfg s = true) (hd : s.req = .done) (tr : List Label) (s' : St) (hrun : run cfg s tr = some s') : s' = s := by
  -- the relay's `active := 0` has run: it is not enabled, and with `resetFirst` it came before the hand-over
  have g := reach_ginv hr
  obtain ⟨-, -, -, -, qc, -⟩ := (quiet_spec cfg s).1 hq
  have hcl : s.cleared = true := (qc (.inr hd)).elim id fun h => g.handed h (by rw [hd]; decide)
  have hin := (g.clear hcl).2.1
  induction tr with
  | nil => cases hrun; rfl
  | cons lb t ih =>
    obtain ⟨s1, hs, hrun⟩ := run_cons_some hrun
    have : s1 = s := by
      cases hi : lb.internal
      · -- of the driver's labels only a delivery is enabled, and the gate is closed
        cases step_iff.1 hs with
        | activate hr' | answer hr' => rw [hd] at hr'; cases hr'
        | deliver _ hg' =>
          exact hg'.elim (fun h => absurd (hg.symm.trans h) nofun) fun h => absurd (hin.symm.trans h) nofun
        | deliverGated => rfl
        | _ => cases hi
      · rw [(quiet_iff cfg s).1 hq lb hi] at hs; cases hs
    exact ih (this ▸ hrun)

def d8run (cfg : Cfg) : List Label :=
  .activate :: activation cfg ++ [.taskTake, .reqStart, .arm 0, .answer, .respond] ++ handover cfg ++ [.hostTake, .decrement]

theorem ungated_witness : ∀ cfg : Cfg, cfg.gated = false →
    (run cfg (init [false]) (d8run cfg)).any (fun s => decide (quiet cfg s = true ∧ s.req = .done ∧
      contsAt s 0 = 0 ∧ (run cfg s [.deliver 0, .catchTake 0, .transform 0, .move 0]).any
        (fun s' => decide (contsAt s' 0 = 1)) = true)) = true :=
  Cfg.forall (by decide +kernel)

/-- not gated: an event delivered after the host completed continues the exception flow -/
theorem C10_counterexample_ungated (cfg : Cfg) (hg : cfg.gated = false) : ¬ boundary_inert_after_completion cfg := by
  intro h
  obtain ⟨s, hr, hq, hd, h0, h2⟩ := witness (ungated_witness cfg hg)
  obtain ⟨s', hrun, h1⟩ := (Option.any_eq_true _ _).1 h2
  have h1 := of_decide_eq_true h1
  rw [(h [false] s hr hq hd).1 _ s' hrun, h0] at h1
  cases h1

theorem inert_wg_unshared (cfg : Cfg) (hs : cfg.share = false) (s : St) : wgListeners cfg s = 0 := by
  simp [wgListeners, hs]

theorem d8_witness : ∀ cfg : Cfg, cfg.share = true → (run cfg (init [false]) (d8run cfg)).any (fun s => decide (
    quiet cfg s = true ∧ s.req = .done ∧ wgListeners cfg s = 1 ∧ canComplete cfg s = false)) = true :=
  Cfg.forall (by decide +kernel)

/-- D8: the listener flows share the instance wait group: a boundary event that never fired keeps a token alive
after the host completed, and the instance cannot complete -/
theorem C10_counterexample_armed_listener (cfg : Cfg) (hs : cfg.share = true) : ¬ boundary_inert_after_completion cfg := by
  intro h
  obtain ⟨s, hr, hq, hd, hw, _⟩ := witness (d8_witness cfg hs)
  rw [(h [false] s hr hq hd).2] at hw
  cases hw

/-- the exact excluding hypothesis for D8: with the shared wait group the listeners contribute nothing at quiescence
iff none of them is still armed (every boundary event has fired) -/
theorem inert_partial (cfg : Cfg) (hc : cfg.once = true) (kinds : List Bool) (s : St) (hr : Reach cfg kinds s)
    (hq : quiet cfg s = true) (hf : ∀ l ∈ s.ls, l.phase ≠ .armed) : wgListeners cfg s = 0 := by
  unfold wgListeners
  split
  · rw [List.length_eq_zero_iff, List.filter_eq_nil_iff]
    intro l hl
    obtain ⟨i, hi⟩ := List.mem_iff_getElem?.mp hl
    rcases exception_progress cfg hc kinds s hr hq i l hi with h | h | h
    · simp [Listener.atBoundary, h]
    · exact absurd h (hf l hl)
    · simp [Listener.atBoundary, h]
  · rfl

/-- … and an armed listener does contribute -/
theorem armed_listener_counts (cfg : Cfg) (hs : cfg.share = true) (s : St) (l : Listener) (hl : l ∈ s.ls)
    (hp : l.phase = .armed) : 0 < wgListeners cfg s := by
  unfold wgListeners
  rw [if_pos hs]
  exact List.length_pos_of_mem (List.mem_filter.mpr ⟨hl, by simp [Listener.atBoundary, hp]⟩)

def noOnceRun (cfg : Cfg) : List Label :=
  .activate :: activation cfg ++ [.taskTake, .reqStart, .arm 0, .arm 1, .answer, .respond, .decrement, .deliver 0, .deliver 1,
   .catchTake 0, .catchTake 1, .transform 0, .taskTake, .move 0, .transform 1] ++ handover cfg ++ [.hostTake]

theorem noOnce_witness : ∀ cfg : Cfg, cfg.once = false →
    (run cfg (init [true, true]) (noOnceRun cfg)).any (fun s => decide (quiet cfg s = true ∧
      s.ls[1]? = some { interrupting := true, phase := .cancelling, got := 1 })) = true :=
  Cfg.forall (by decide +kernel)

/-- without the once: two interrupting boundary events fire while the answer races them; the first cancel is accepted
(the request goroutine has already left the counter), the activity's run loop exits, and the second listener waits
forever for a verdict: its event was matched and its exception flow never continues -/
theorem C10_counterexample_no_once (cfg : Cfg) (ho : cfg.once = false) :
    ∃ (s : St) (l : Listener), Reach cfg [true, true] s ∧ quiet cfg s = true ∧ s.ls[1]? = some l ∧
      l.phase = .cancelling ∧ l.conts = 0 ∧ l.got = 1 ∧ l.dropped = 0 := by
  obtain ⟨s, hr, hq, hl⟩ := witness (noOnce_witness cfg ho)
  exact ⟨s, _, hr, hq, hl, rfl, rfl, rfl, rfl⟩

/-- the witness: with `active := 1` first, the event arrives between the two statements; without the gate it may
arrive before both -/
def strandRun (cfg : Cfg) : List Label :=
  if cfg.early then
    [.activate, .harnessActive, .arm 0, .deliver 0, .catchTake 0, .transform 0, .harnessCall, .taskTake, .move 0]
  else
    [.activate, .arm 0, .deliver 0, .catchTake 0, .transform 0, .harnessCall, .taskTake, .move 0, .harnessActive]

theorem strand_witness : ∀ cfg : Cfg, cfg.early = true ∨ cfg.gated = false →
    (run cfg (init [true]) (strandRun cfg)).any (fun s => decide (quiet cfg s = true ∧ s.req = .atTask ∧
      s.tRun = false ∧ s.hreqs = 0 ∧ contsAt s 0 = 1 ∧ s.verdicts = [true])) = true :=
  Cfg.forall (by decide +kernel)

/-- D30: the harness is active before the activity has its first message (or events are not gated at all): an
interrupting event in that window puts the cancel message FIRST into the activity's inbox; the freshly started run
loop finds no request counted, accepts, and exits; the next-action message is never handled: the activity is never
executed, the host's token waits forever (the exception flow does continue) -/
theorem C10_counterexample_cancel_before_request (cfg : Cfg) (h : cfg.early = true ∨ cfg.gated = false) :
    ∃ s : St, Reach cfg [true] s ∧ quiet cfg s = true ∧ s.req = .atTask ∧ contsAt s 0 = 1 ∧
      ∀ (tr : List Label) (s' : St), run cfg s tr = some s' → s'.req = .atTask ∧ s'.hreqs = 0 ∧ s'.normal = 0 := by
  obtain ⟨s, hr, hq, hreq, htr, hh, hx, _⟩ := witness (strand_witness cfg h)
  refine ⟨s, hr, hq, hreq, hx, fun tr s' hrun => ?_⟩
  have hn := (reach_ginv hr).normal
  rw [hreq] at hn
  obtain ⟨a, b, c⟩ := stranded_forever hrun hreq htr
  exact ⟨a, b.trans hh, c.trans hn⟩

/-- the exact excluding hypothesis, for any facts: at quiescence the host has not been reached, waits for its
answer, or has completed — unless the activity's run loop exited on an ACCEPTED cancel with its first message still
unhandled -/
theorem host_requested_partial (cfg : Cfg) (kinds : List Bool) (s : St) (hr : Reach cfg kinds s) (hq : quiet cfg s = true) :
    s.req = .none ∨ s.req = .pending ∨ s.req = .done ∨ (s.req = .atTask ∧ s.tRun = false ∧ true ∈ s.verdicts) := by
  rcases quiet_req hr hq with h | h | h | h
  · exact .inl h
  · -- the first message is still in the inbox, so the run loop has exited
    have hri := reach_runinv hr
    have hmem := hri.queued h
    have ht : s.tRun = false := (quiet_tq hq).resolve_right fun e => by rw [e] at hmem; cases hmem
    exact .inr (.inr (.inr ⟨h, ht, (hri.exited ht).resolve_left (by rw [h]; decide)⟩))
  · exact .inr (.inl h)
  · exact .inr (.inr (.inl h))

/-- the other side of the dichotomy: with `activity.NextAction` called BEFORE `active := 1` and events gated by
`active`, the activity's first message is always first in its inbox: at quiescence the host is unreached, waits for
its answer, or has completed, on every schedule -/
theorem host_always_requested (cfg : Cfg) (he : cfg.early = false) (hg : cfg.gated = true) (kinds : List Bool) (s : St)
    (hr : Reach cfg kinds s) (hq : quiet cfg s = true) : s.req = .none ∨ s.req = .pending ∨ s.req = .done := by
  rcases host_requested_partial cfg kinds s hr hq with h | h | h | ⟨h, ht, _⟩
  · exact Or.inl h
  · exact Or.inr (Or.inl h)
  · exact Or.inr (Or.inr h)
  · rw [((reach_late he hg hr).first h).1] at ht; cases ht

/-- with `active := 0` BEFORE `out <- rsp`: once the token holds the answer (so that the normal flow can continue) the
harness is inactive, on every schedule — not only at quiescence -/
theorem handover_inactive (cfg : Cfg) (hrf : cfg.resetFirst = true) (kinds : List Bool) (s : St) (hr : Reach cfg kinds s)
    (h : Req.forwarded.rank ≤ s.req.rank) : s.hActive = false :=
  have g := reach_ginv hr
  (g.clear (g.handed hrf h)).2.1

/-- … hence (with the gate) an event delivered from then on reaches no boundary event -/
theorem handover_inert (cfg : Cfg) (hrf : cfg.resetFirst = true) (hg : cfg.gated = true) (kinds : List Bool) (s : St)
    (hr : Reach cfg kinds s) (h : Req.forwarded.rank ≤ s.req.rank) (i : Nat) :
    step cfg s (.deliver i) = some s ∨ step cfg s (.deliver i) = none := by
  cases hl : s.ls[i]? with
  | none => right; simp [step, hl]
  | some l => exact .inl (step_iff.2 (Step.deliverGated hl hg (handover_inactive cfg hrf kinds s hr h)))

def lateResetRun (cfg : Cfg) : List Label :=
  .activate :: activation cfg ++ [.taskTake, .reqStart, .arm 0, .answer, .respond, .forward, .hostTake]

theorem lateReset_witness : ∀ cfg : Cfg, cfg.resetFirst = false →
    (run cfg (init [false]) (lateResetRun cfg)).any (fun s => decide (s.req = .done ∧ s.normal = 1 ∧
      contsAt s 0 = 0 ∧ (run cfg s [.deliver 0, .catchTake 0, .transform 0, .move 0]).any
        (fun s' => decide (contsAt s' 0 = 1)) = true)) = true :=
  Cfg.forall (by decide +kernel)

/-- with `active := 0` AFTER the hand-over: the host has completed (the token took the answer, the normal flow has
continued) and an event delivered now still continues the exception flow -/
theorem C10_counterexample_late_reset (cfg : Cfg) (h : cfg.resetFirst = false) :
    ∃ s s' : St, Reach cfg [false] s ∧ s.req = .done ∧ s.normal = 1 ∧ contsAt s 0 = 0 ∧
      run cfg s [.deliver 0, .catchTake 0, .transform 0, .move 0] = some s' ∧ contsAt s' 0 = 1 := by
  obtain ⟨s, hr, hd, hn, hc, h2⟩ := witness (lateReset_witness cfg h)
  obtain ⟨s', hrun, hc'⟩ := (Option.any_eq_true _ _).1 h2
  exact ⟨s, s', hr, hd, hn, hc, hrun, of_decide_eq_true hc'⟩

/-- exception flows never continue twice, on any schedule, for any facts -/
theorem exception_flow_at_most_once (cfg : Cfg) (kinds : List Bool) (s : St) (hr : Reach cfg kinds s) :
    ∀ l ∈ s.ls, l.conts ≤ 1 := by
  intro l hl
  have := (reach_linv hr l hl).1
  rw [this]; split <;> omega

/-- C10 does not hold of the code, for any value of the extracted facts -/
theorem C10_fails (cfg : Cfg) : ¬ C10_statement cfg := fun h => C10_counterexample_interrupting cfg h.1

/-- what does hold, under the two facts that are as they should be (once, gated) -/
def C10_partial_statement (cfg : Cfg) : Prop :=
  (∀ (kinds : List Bool) (s1 : St) (i : Nat) (l : Listener), Reach cfg kinds s1 → s1.ls[i]? = some l →
      l.phase = .armed → 0 < l.inbox → ∀ (tr : List Label) (s2 : St), run cfg s1 (.catchTake i :: tr) = some s2 →
      contsAt s2 i ≤ 1 ∧ (quiet cfg s2 = true → contsAt s2 i = 1)) ∧
  (∀ (kinds : List Bool) (s : St), Reach cfg kinds s → quiet cfg s = true →
      (∀ l ∈ s.ls, l.conts + l.dropped = l.got) ∧ (Req.answered.rank ≤ s.req.rank → s.normal = 1)) ∧
  (∀ (kinds : List Bool) (s : St), Reach cfg kinds s → quiet cfg s = true → s.req = .done →
      (∀ (tr : List Label) (s' : St), run cfg s tr = some s' → s' = s) ∧
      ((∀ l ∈ s.ls, l.phase ≠ .armed) → wgListeners cfg s = 0))

theorem C10_partial (cfg : Cfg) (ho : cfg.once = true) (hg : cfg.gated = true) : C10_partial_statement cfg :=
  ⟨interrupting_partial cfg ho, non_interrupting_partial cfg ho,
   fun kinds s hr hq hd => ⟨inert_no_reaction cfg hg kinds s hr hq hd, inert_partial cfg ho kinds s hr hq⟩⟩

/-! ## Non-vacuity: the hypotheses of the implications above are met by concrete reachable states -/

def exPre : St := (run Cfg.code (init [true]) (d7pre Cfg.code)).getD (init [])
def exPost : St := (run Cfg.code exPre (.catchTake 0 :: d7post Cfg.code)).getD (init [])

/-- `interrupting_partial`, `boundary_interrupting`: a reachable state in which the host waits for its answer and an
armed interrupting listener has an event in its inbox; the run continues to a quiescent state -/
example : Reach Cfg.code [true] exPre ∧ exPre.req = .pending ∧
    exPre.ls[0]? = some { interrupting := true, phase := .armed, inbox := 1, got := 1 } ∧
    run Cfg.code exPre (.catchTake 0 :: d7post Cfg.code) = some exPost ∧ quiet Cfg.code exPost = true ∧
    contsAt exPost 0 = 1 ∧ exPost.normal = 1 :=
  ⟨reach_getD (by decide), by decide⟩

def exOne : St := (run Cfg.code (init [false]) [.activate, .harnessActive, .harnessCall, .taskTake, .reqStart, .arm 0, .deliver 0,
  .catchTake 0, .transform 0, .move 0, .answer, .respond, .clear, .forward, .hostTake, .decrement]).getD (init [])

/-- `non_interrupting_partial` with nothing dropped: one event, one continuation, the normal flow after the answer,
and (every listener fired) the instance can complete -/
example : Reach Cfg.code [false] exOne ∧ quiet Cfg.code exOne = true ∧
    exOne.ls[0]? = some { interrupting := false, phase := .moved, got := 1, conts := 1 } ∧
    exOne.normal = 1 ∧ canComplete Cfg.code exOne = true :=
  ⟨reach_getD (by decide), by decide⟩

def exDone : St := (run Cfg.code (init [false]) (d8run Cfg.code)).getD (init [])

/-- `inert_no_reaction`, `inert_partial`: a reachable quiescent state in which the host has completed (a delivery is
accepted by `step` and changes nothing) -/
example : Reach Cfg.code [false] exDone ∧ quiet Cfg.code exDone = true ∧ exDone.req = .done ∧
    step Cfg.code exDone (.deliver 0) = some exDone :=
  ⟨reach_getD (by decide), by decide⟩

/-- the cancel in the D7 witness is REFUSED under the code's facts (the request is still counted): -/
example : ((run Cfg.code (init [true]) (d7pre Cfg.code ++ .catchTake 0 :: d7post Cfg.code)).map (·.verdicts)) = some [false] := by decide

end Bpmn.Props.C10
