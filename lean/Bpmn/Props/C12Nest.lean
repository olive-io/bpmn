import Bpmn.Model.Engine
import Bpmn.Props.C01Chain
/-!
# C12 — sub-processes nested to ANY depth around a chain of ANY length

The statement of C12 quantifies over "any nesting depth". `Props/C12Steps` gives the contract of ONE sub-process node for
every program; this file carries it through whole runs, by induction on the depth and on the length of the chain, for the
family of programs in which `d ≥ 1` sub-process levels are wrapped around a chain of `K ≥ 1` tasks `T₀ → … → T_{K-1}`, with a
task `C` behind the outermost level:

    s → U₀[ S₀ → U₁[ S₁ → … U_{d-1}[ S_{d-1} → T₀ → … → T_{K-1} → E_{d-1} ] … → E₁ ] → E₀ ] → C → e

`Shape p d K U S E T` says that a program `p` is such a nest, through the program's own look-ups, so the theorems are about every
program of that shape, whatever else it declares and however its nodes and flows are named; `nestProc d K` inhabits it at every
depth and length.

All of it is about the token game (`Cfg.ideal`); `Props/C12Steps.nest_run_current` transfers it to the configuration
extracted from today's /repo (`sub_programs_are_token_game`).
-/
namespace Bpmn.Props.C12Nest
open Bpmn.Model Bpmn.Model.Engine

def Goes (p : Proc) (a : String) (k : Kind) (par b : String) : Prop :=
  ∃ n fl f, p.node? a = some n ∧ n.id = a ∧ n.kind = k ∧ n.parent = par ∧ n.outs = [fl] ∧
    p.flow? fl = some f ∧ f.cond = .none ∧ f.dst = b

def IsEnd (p : Proc) (a par : String) : Prop :=
  ∃ n, p.node? a = some n ∧ n.id = a ∧ n.kind = .end_ ∧ n.parent = par

def inScope (p : Proc) (x a : String) : Bool := (p.node? a).map (·.parent == x) |>.getD false

structure Calm (s : St) : Prop where
  parked : s.parked = []
  pg : s.pg = []
  ig : s.ig = []
  oos : s.outOfScope = none

/-! ## The engine on calm states, one token at a time

Besides the fields of `Calm` the sub-process mechanism reads and writes only the fields collected in `View`; the tracker
picture, the lineage and the `activated` / `subFired` marks are carried along unread. Every step lemma below says what one
move of the work list does to the view, so the runs of the later sections are followed on views — small terms — and never
on the state itself. -/

structure View where
  subs : List Tok
  pending : List (Tok × Nat)
  occ : List (String × Nat)
  obs : List Obs
  nextFid : Nat
  vars : Vars

def view (s : St) : View := ⟨s.subs, s.pending, s.occ, s.obs, s.nextFid, s.vars⟩

def At (s : St) (v : View) : Prop := Calm s ∧ view s = v

/-- `bumpOcc` on the occurrence counters alone -/
def bump (occ : List (String × Nat)) (x : String) : Nat × List (String × Nat) :=
  (((occ.find? (·.1 == x)).map (·.2)).getD 0 + 1,
   occ.filter (·.1 != x) ++ [(x, ((occ.find? (·.1 == x)).map (·.2)).getD 0 + 1)])

namespace View

def request (v : View) (t : Tok) : View :=
  { v with pending := v.pending ++ [(t, (bump v.occ t.node).1)], occ := (bump v.occ t.node).2, obs := v.obs ++ [.req t.node] }

/-- does scope `x` hold a live token? With nothing parked anywhere these are pending requests and parent tokens of nested
levels. -/
def live (p : Proc) (v : View) (x : String) : Bool :=
  v.pending.any (fun q => inScope p x q.1.node) || v.subs.any (fun t => inScope p x t.node)

/-- the parent token whose scope holds no live token, if there is one: what `settle` looks for -/
def done (p : Proc) (v : View) : Option Tok := v.subs.find? (fun u => !v.live p u.node)

end View

section steps
variable {p : Proc} {s : St} {v : View} {t u : Tok} {par b : String} {fuel : Nat}

namespace At

theorem subs (h : At s v) : s.subs = v.subs := congrArg View.subs h.2
theorem pending (h : At s v) : s.pending = v.pending := congrArg View.pending h.2
theorem occ (h : At s v) : s.occ = v.occ := congrArg View.occ h.2
theorem obs (h : At s v) : s.obs = v.obs := congrArg View.obs h.2
theorem nextFid (h : At s v) : s.nextFid = v.nextFid := congrArg View.nextFid h.2
theorem vars (h : At s v) : s.vars = v.vars := congrArg View.vars h.2

theorem live (h : At s v) (x : String) : liveInScope p s x [] = v.live p x := by
  obtain ⟨hc, rfl⟩ := h
  simp [liveInScope, hc.parked, hc.pg, hc.ig, View.live, view, inScope]

theorem done (h : At s v) : s.subs.find? (fun u => !liveInScope p s u.node []) = v.done p := by
  simp only [h.live, h.subs, View.done]

theorem recordFlow {src : String} {fids : List Nat} (h : At s v) : At (s.recordFlow p src fids) v := by
  obtain ⟨hc, rfl⟩ := h
  unfold St.recordFlow
  exact ⟨⟨hc.parked, hc.pg, hc.ig, hc.oos⟩, rfl⟩

end At

theorem arrive_task (h : Goes p t.node .task par b) (ha : At s v) :
    (arrive Cfg.ideal p s t).1 = [] ∧ At (arrive Cfg.ideal p s t).2 (v.request t) := by
  obtain ⟨n, fl, f, hn, hid, hk, -⟩ := h
  obtain ⟨hc, rfl⟩ := ha
  rw [Lemmas.Engine.arrive_task_eq hn hk, hid]
  unfold bumpOcc St.emit
  exact ⟨rfl, ⟨hc.parked, hc.pg, hc.ig, hc.oos⟩, rfl⟩

theorem arrive_start (h : Goes p t.node .start par b) (ha : At s v) (hfresh : s.activated.contains t.node = false) :
    (arrive Cfg.ideal p s t).1 = [{ t with node := b }] ∧ At (arrive Cfg.ideal p s t).2 v := by
  obtain ⟨n, fl, f, hn, hid, hk, -, ho, hf, hc, hd⟩ := h
  unfold arrive
  simp only [hn, hk, hid, hfresh, ho, Bool.false_eq_true, if_false]
  rw [C01Chain.leave_single Cfg.ideal p _ t fl f hf hc, hd]
  exact ⟨rfl, At.recordFlow ⟨⟨ha.1.parked, ha.1.pg, ha.1.ig, ha.1.oos⟩, ha.2⟩⟩

theorem arrive_end (h : IsEnd p t.node par) (ha : At s v) :
    (arrive Cfg.ideal p s t).1 = [] ∧ At (arrive Cfg.ideal p s t).2 { v with obs := v.obs ++ [.complete t.node] } := by
  obtain ⟨n, hn, hid, hk, -⟩ := h
  obtain ⟨hc, rfl⟩ := ha
  rw [Lemmas.Engine.arrive_end_eq hn hk, hid]
  unfold St.recordTerm St.emit
  exact ⟨rfl, ⟨hc.parked, hc.pg, hc.ig, hc.oos⟩, rfl⟩

theorem arrive_sub {m : Node} (h : Goes p t.node .sub par b)
    (hst : p.nodes.filter (fun x => x.parent == t.node && x.kind == .start) = [m]) (ha : At s v)
    (hidle : v.subs.any (·.node == t.node) = false) :
    (arrive Cfg.ideal p s t).1 = [{ fid := v.nextFid, node := m.id }] ∧
      At (arrive Cfg.ideal p s t).2 { v with subs := v.subs ++ [t], nextFid := v.nextFid + 1 } ∧
      (arrive Cfg.ideal p s t).2.activated.contains m.id = false := by
  obtain ⟨n, fl, f, hn, hid, hk, -⟩ := h
  obtain ⟨hc, rfl⟩ := ha
  unfold arrive
  simp only [hn, hk, hid, show s.subs.any (·.node == t.node) = false from hidle, hst, Bool.false_eq_true, if_false,
    spawnStarts, enterSub, Cfg.ideal, List.foldl_cons, List.foldl_nil, List.nil_append, Bool.false_and]
  exact ⟨rfl, ⟨⟨hc.parked, hc.pg, hc.ig, hc.oos⟩, rfl⟩, by simp⟩

theorem runWork_step (hf : 0 < fuel) : runWork Cfg.ideal p fuel [t] s =
    runWork Cfg.ideal p (fuel - 1) (arrive Cfg.ideal p s t).1 (arrive Cfg.ideal p s t).2 := by
  obtain ⟨f, rfl⟩ : ∃ f, fuel = f + 1 := ⟨fuel - 1, by omega⟩
  rw [runWork]
  rfl

theorem run_xor {n : Node} {ev : List (String × Bool)} {fl : String} (hf : 0 < fuel) (hn : p.node? t.node = some n)
    (hk : n.kind = .xor) (hev : evalFlows p s (n.outs.filter (fun f => some f != n.dflt)) false = (ev, s))
    (hx : Gateway.xgDecide ev n.dflt = .take fl) (ha : At s v) :
    ∃ s', runWork Cfg.ideal p fuel [t] s = runWork Cfg.ideal p (fuel - 1) [{ t with node := flowDst p fl }] s' ∧ At s' v := by
  refine ⟨s.recordFlow p t.node [t.fid], (runWork_step hf).trans ?_, ha.recordFlow⟩
  unfold arrive
  simp only [hn, hk, hev, hx]
  simp [selectFlows, evalFlows, evalFlow, forkToks, St.inherit, Cfg.ideal]

theorem runWork_go (hf : 0 < fuel) (h : (settle Cfg.ideal p s).1 = [t]) :
    runWork Cfg.ideal p fuel [] s = runWork Cfg.ideal p (fuel - 1) [t] (settle Cfg.ideal p s).2 := by
  obtain ⟨f, rfl⟩ : ∃ f, fuel = f + 1 := ⟨fuel - 1, by omega⟩
  rw [runWork]
  simp [h]

theorem run_enter {m : Node} {c : String} (hf : 2 ≤ fuel) (h : Goes p t.node .sub par b)
    (hst : p.nodes.filter (fun x => x.parent == t.node && x.kind == .start) = [m])
    (hm : Goes p m.id .start t.node c) (ha : At s v) (hidle : v.subs.any (·.node == t.node) = false) :
    ∃ s', runWork Cfg.ideal p fuel [t] s = runWork Cfg.ideal p (fuel - 2) [{ fid := v.nextFid, node := c }] s' ∧
      At s' { v with subs := v.subs ++ [t], nextFid := v.nextFid + 1 } := by
  obtain ⟨e1, h1, hfresh⟩ := arrive_sub h hst ha hidle
  obtain ⟨e2, h2⟩ := arrive_start (t := { fid := v.nextFid, node := m.id }) hm h1 hfresh
  exact ⟨_, by rw [runWork_step (by omega), e1, runWork_step (by omega), e2]; rfl, h2⟩

theorem answer_ok {j : Nat} {r : List (String × Int)} (h : Goes p t.node .task par b) (ha : At s v)
    (hp : v.pending = [(t, j)]) :
    ∃ n s', p.node? t.node = some n ∧
      answer Cfg.ideal p s t.node j (.ok r) = runWork Cfg.ideal p (fuelFor p) [{ t with node := b }] s' ∧
      At s' { v with pending := [], obs := [], vars := applyDeclared n v.vars r } := by
  obtain ⟨n, fl, f, hn, hid, hk, -, ho, hf, hc, hd⟩ := h
  obtain ⟨hcalm, rfl⟩ := ha
  subst hd
  exact ⟨n, _, hn, C01Chain.answer_single Cfg.ideal p s t j n fl f r hp hn ho hf hc,
    At.recordFlow ⟨⟨hcalm.parked, hcalm.pg, hcalm.ig, hcalm.oos⟩, rfl⟩⟩

theorem start_eq {n : Node} {vars : Vars} (hts : p.nodes.filter (fun n => n.kind == .start && n.parent == "-") = [n])
    (hg : Goes p n.id .start "-" b) (hf : 1 ≤ fuelFor p) :
    ∃ s', start Cfg.ideal p vars = runWork Cfg.ideal p (fuelFor p - 1) [{ fid := 1, node := b }] s' ∧
      At s' ⟨[], [], [], [], 2, vars⟩ := by
  obtain ⟨e, h⟩ := arrive_start (s := { vars, nextFid := 2 }) (t := { fid := 1, node := n.id }) hg ⟨⟨rfl, rfl, rfl, rfl⟩, rfl⟩ rfl
  refine ⟨_, ?_, h⟩
  unfold start
  simp only [hts, spawnStarts, List.foldl, List.nil_append]
  rw [runWork_step hf, e]

section
variable (hni : p.nodes.filter (·.kind == .incl) = [])
include hni

theorem runWork_stop (hf : 0 < fuel) (ha : At s v) (hd : v.done p = none) :
    runWork Cfg.ideal p fuel [] s = s := by
  obtain ⟨f, rfl⟩ : ∃ f, fuel = f + 1 := ⟨fuel - 1, by omega⟩
  exact Lemmas.Engine.runWork_settled f
    ((Lemmas.Engine.settle_noIncl _ hni s).trans (Lemmas.Engine.settleSubs_idle (ha.done.trans hd))) ha.1.ig

theorem settle_return (ha : At s v) (hd : v.done p = some u)
    (h : Goes p u.node .sub par b) :
    (settle Cfg.ideal p s).1 = [{ u with node := b }] ∧
      At (settle Cfg.ideal p s).2 { v with subs := v.subs.filter (· != u) } := by
  obtain ⟨n, fl, f, hn, hid, hk, -, ho, hf, hc, hd'⟩ := h
  rw [Lemmas.Engine.settle_noIncl _ hni s, Lemmas.Engine.settleSubs_returns rfl (ha.done.trans hd)]
  obtain ⟨hcalm, rfl⟩ := ha
  simp only [hn, Lemmas.Engine.leave, ho, C01Chain.leave_single Cfg.ideal p _ u fl f hf hc, hd', Bool.false_eq_true, if_false]
  rw [nextTurn_idle]
  · exact ⟨rfl, At.recordFlow ⟨⟨hcalm.parked, hcalm.pg, hcalm.ig, hcalm.oos⟩, rfl⟩⟩
  · exact congrArg (List.find? _) hcalm.parked

theorem run_task (hf : 2 ≤ fuel) (h : Goes p t.node .task par b)
    (ha : At s v) (hd : (v.request t).done p = none) :
    At (runWork Cfg.ideal p fuel [t] s) (v.request t) := by
  obtain ⟨e, h'⟩ := arrive_task h ha
  rwa [runWork_step (by omega), e, runWork_stop hni (by omega) h' hd]

theorem run_end (hf : 2 ≤ fuel) (h : IsEnd p t.node par)
    (ha : At s v) (hs : v.subs = []) :
    At (runWork Cfg.ideal p fuel [t] s) { v with obs := v.obs ++ [.complete t.node] } := by
  obtain ⟨e, h'⟩ := arrive_end h ha
  rwa [runWork_step (by omega), e, runWork_stop hni (by omega) h' (congrArg (List.find? _) hs)]

theorem run_return {par' : String} (hf : 2 ≤ fuel) (h : IsEnd p t.node par)
    (hu : Goes p u.node .sub par' b) (ha : At s v)
    (hd : View.done p { v with obs := v.obs ++ [.complete t.node] } = some u) :
    ∃ s', runWork Cfg.ideal p fuel [t] s = runWork Cfg.ideal p (fuel - 2) [{ u with node := b }] s' ∧
      At s' { v with subs := v.subs.filter (· != u), obs := v.obs ++ [.complete t.node] } := by
  obtain ⟨e, h'⟩ := arrive_end h ha
  obtain ⟨e', h''⟩ := settle_return hni h' hd hu
  exact ⟨_, by rw [runWork_step (by omega), e, runWork_go (by omega) e']; rfl, h''⟩

end

end steps

def par (U : Nat → String) (i : Nat) : String := if i = 0 then "-" else U (i - 1)
/-- where the parent token of level `i` continues when the level is done -/
def up (E : Nat → String) (i : Nat) : String := if i = 0 then "C" else E (i - 1)
/-- what the inner start event of level `i - 1` leads to: the next level, or the first of the innermost tasks -/
def down (d : Nat) (U T : Nat → String) (i : Nat) : String := if i < d then U i else T 0
/-- what follows the `i`-th innermost task: the next one, or the end event of the innermost level -/
def nextT (d K : Nat) (E T : Nat → String) (i : Nat) : String := if i + 1 < K then T (i + 1) else E (d - 1)

structure Shape (p : Proc) (d K : Nat) (U S E T : Nat → String) : Prop where
  pos : 0 < d
  kpos : 0 < K
  noIncl : p.nodes.filter (·.kind == .incl) = []
  topStart : ∃ n, p.nodes.filter (fun n => n.kind == .start && n.parent == "-") = [n] ∧ n.id = "s"
  s_goes : Goes p "s" .start "-" (U 0)
  u_goes : ∀ i, i < d → Goes p (U i) .sub (par U i) (up E i)
  starts : ∀ i, i < d → ∃ m, p.nodes.filter (fun x => x.parent == U i && x.kind == .start) = [m] ∧ m.id = S i
  st_goes : ∀ i, i < d → Goes p (S i) .start (U i) (down d U T (i + 1))
  ends : ∀ i, i < d → IsEnd p (E i) (U i)
  t_goes : ∀ i, i < K → Goes p (T i) .task (U (d - 1)) (nextT d K E T i)
  tinj : ∀ i j, i < K → j < K → T i = T j → i = j
  tC : ∀ i, i < K → T i ≠ "C"
  c_goes : Goes p "C" .task "-" "e"
  e_end : IsEnd p "e" "-"
  inj : ∀ i j, i < d → j < d → U i = U j → i = j
  notTop : ∀ i, i < d → U i ≠ "-"
  -- more than is used: `start` and each `answer` run on fresh fuel, and the longest of them (into every level, `descend`;
  -- out of every level, `ascend`) takes `2 * d + 3` steps of the work loop
  fuel : 4 * d + 8 ≤ fuelFor p

/-- the parent token held in level `i`: the `i+1`-th token of the run -/
def tk (U : Nat → String) (i : Nat) : Tok := { fid := i + 1, node := U i }
def subsAt (U : Nat → String) (k : Nat) : List Tok := (List.range k).map (tk U)

theorem subsAt_succ (U : Nat → String) (k : Nat) : subsAt U (k + 1) = subsAt U k ++ [tk U k] := by
  simp [subsAt, List.range_succ]

theorem mem_subsAt (U : Nat → String) (k : Nat) (x : Tok) : x ∈ subsAt U k ↔ ∃ i, i < k ∧ x = tk U i := by
  simp [subsAt, eq_comm]

theorem filter_last (U : Nat → String) (k : Nat) : (subsAt U (k + 1)).filter (· != tk U k) = subsAt U k := by
  rw [subsAt_succ, List.filter_append, List.filter_eq_self.mpr]
  · simp
  · intro x hx
    obtain ⟨i, hi, rfl⟩ := (mem_subsAt U k x).mp hx
    simpa using fun e : tk U i = tk U k => Nat.ne_of_lt hi (Nat.succ.inj (congrArg Tok.fid e))

variable {p : Proc} {d K : Nat} {U S E T : Nat → String}

theorem inScope_of_goes {a : String} {k : Kind} {par b : String} (h : Goes p a k par b) (x : String) :
    inScope p x a = (par == x) := by
  obtain ⟨n, fl, f, hn, -, -, hp, -⟩ := h
  simp [inScope, hn, hp]

theorem inScope_level (sh : Shape p d K U S E T) {i j : Nat} (hi : i < d) (hj : j < d) :
    inScope p (U i) (U j) = decide (j = i + 1) := by
  rw [inScope_of_goes (sh.u_goes j hj)]
  unfold par
  by_cases h0 : j = 0
  · subst h0
    simpa using (sh.notTop i hi).symm
  · rw [if_neg h0, Bool.eq_iff_iff, beq_iff_eq, decide_eq_true_iff]
    exact ⟨fun h => by have := sh.inj (j - 1) i (by omega) hi h; omega, fun e => by rw [e]; rfl⟩

theorem live_level (sh : Shape p d K U S E T) {v : View} {m i : Nat} (hm : m ≤ d) (hi : i < d) (hs : v.subs = subsAt U m) :
    v.live p (U i) = (v.pending.any (fun q => inScope p (U i) q.1.node) || decide (i + 1 < m)) := by
  unfold View.live
  rw [hs]
  congr 1
  rw [Bool.eq_iff_iff, List.any_eq_true, decide_eq_true_iff]
  constructor
  · rintro ⟨x, hx, hl⟩
    obtain ⟨j, hj, rfl⟩ := (mem_subsAt U m x).mp hx
    rw [show (tk U j).node = U j from rfl, inScope_level sh hi (by omega), decide_eq_true_iff] at hl
    omega
  · intro h
    exact ⟨tk U (i + 1), (mem_subsAt U m _).mpr ⟨i + 1, h, rfl⟩, by
      rw [show (tk U (i + 1)).node = U (i + 1) from rfl, inScope_level sh hi (by omega)]; simp⟩

theorem done_last (sh : Shape p d K U S E T) {k : Nat} (hk : k < d) {v : View} (hs : v.subs = subsAt U (k + 1))
    (hp : v.pending = []) : v.done p = some (tk U k) := by
  unfold View.done
  rw [hs, subsAt_succ, List.find?_append, List.find?_eq_none.mpr, Option.none_or, List.find?_cons_of_pos]
  · show (!v.live p (U k)) = true
    rw [live_level sh hk hk hs, hp]
    simp
  · intro x hx
    obtain ⟨i, hi, rfl⟩ := (mem_subsAt U k x).mp hx
    show ¬ (!v.live p (U i)) = true
    rw [live_level sh hk (by omega) hs, hp]
    simpa using hi

theorem done_none (sh : Shape p d K U S E T) {v : View} {t' : Tok} {occ i : Nat} (hi : i < K) (hs : v.subs = subsAt U d)
    (hp : v.pending = [(t', occ)]) (ht : t'.node = T i) : v.done p = none := by
  apply List.find?_eq_none.mpr
  intro x hx
  rw [hs] at hx
  obtain ⟨j, hj, rfl⟩ := (mem_subsAt U d x).mp hx
  show ¬ (!v.live p (U j)) = true
  rw [live_level sh (Nat.le_refl d) hj hs, hp, List.any_cons, ht, inScope_of_goes (sh.t_goes i hi)]
  by_cases e : j + 1 < d
  · simp [e]
  · simp [show j = d - 1 by omega]

theorem request_pending (v : View) (t : Tok) (hp : v.pending = []) (ho : v.occ.find? (·.1 == t.node) = none) :
    (v.request t).pending = [(t, 1)] := by
  simp [View.request, hp, bump, ho]

def completions (E : Nat → String) (k : Nat) : List Obs := (List.range k).reverse.map (fun i => Obs.complete (E i))

/-- **The way out.** `k` levels are open, nothing is pending, a token stands where level `k` continues (the inner end event
of level `k - 1`, or `C` once every level is closed): the levels return innermost first, one completion each, and then `C`
is requested — once. Fuel: per level the arrival at its end event and the `settle` that returns; for `C` its arrival and
the closing `settle`. -/
theorem ascend (sh : Shape p d K U S E T) : ∀ (k : Nat), k ≤ d → ∀ (fuel : Nat), 2 * k + 2 ≤ fuel → ∀ (s : St) (t : Tok),
    Calm s → s.subs = subsAt U k → s.pending = [] → s.occ.find? (·.1 == "C") = none → t.node = up E k →
    Calm (runWork Cfg.ideal p fuel [t] s) ∧ (runWork Cfg.ideal p fuel [t] s).subs = [] ∧
    (runWork Cfg.ideal p fuel [t] s).obs = s.obs ++ completions E k ++ [.req "C"] ∧
    ∃ t', (runWork Cfg.ideal p fuel [t] s).pending = [(t', 1)] ∧ t'.node = "C" := by
  intro k
  induction k with
  | zero =>
    intro _ fuel hf s t hc hs hp ho ht
    have ht' : t.node = "C" := ht
    have h' := run_task sh.noIncl (fuel := fuel) (by omega) (ht' ▸ sh.c_goes) ⟨hc, rfl⟩ (congrArg (List.find? _) hs)
    refine ⟨h'.1, h'.subs.trans hs, h'.obs.trans ?_, t, h'.pending.trans (request_pending _ t hp (ht' ▸ ho)), ht'⟩
    show s.obs ++ [.req t.node] = _
    rw [ht']; simp [completions]
  | succ k ih =>
    intro hk fuel hf s t hc hs hp ho ht
    have ht' : t.node = E k := ht
    obtain ⟨s', e, h'⟩ := run_return sh.noIncl (fuel := fuel) (by omega) (ht' ▸ sh.ends k hk) (sh.u_goes k hk) ⟨hc, rfl⟩
      (done_last sh hk hs hp)
    obtain ⟨c, hsub, hobs, hpend⟩ := ih (by omega) (fuel - 2) (by omega) s' { tk U k with node := up E k } h'.1
      (h'.subs.trans ((congrArg (List.filter _) hs).trans (filter_last U k))) (h'.pending.trans hp)
      ((congrArg (List.find? _) h'.occ).trans ho) rfl
    rw [e]
    refine ⟨c, hsub, hobs.trans ?_, hpend⟩
    rw [h'.obs]
    show (s.obs ++ [.complete t.node]) ++ _ ++ _ = _
    rw [ht']; simp [completions, List.range_succ]


/-- **The way in.** `k` levels are entered, the `k+1`-th token of the run stands at the next sub-process node (or at the
innermost task): every remaining level is entered, one fresh token per inner start event, and `T` is requested — once;
nothing else is. Fuel: per level the arrival at the sub-process node and at its start event; for `T` its arrival and the
closing `settle`. -/
theorem descend (sh : Shape p d K U S E T) : ∀ (m k : Nat), k + m = d → ∀ (fuel : Nat), 2 * m + 2 ≤ fuel → ∀ (s : St),
    Calm s → s.subs = subsAt U k → s.pending = [] → s.occ = [] → s.nextFid = k + 2 →
    Calm (runWork Cfg.ideal p fuel [{ fid := k + 1, node := down d U T k }] s) ∧
    (runWork Cfg.ideal p fuel [{ fid := k + 1, node := down d U T k }] s).subs = subsAt U d ∧
    (runWork Cfg.ideal p fuel [{ fid := k + 1, node := down d U T k }] s).obs = s.obs ++ [.req (T 0)] ∧
    (runWork Cfg.ideal p fuel [{ fid := k + 1, node := down d U T k }] s).occ = [(T 0, 1)] ∧
    ∃ t', (runWork Cfg.ideal p fuel [{ fid := k + 1, node := down d U T k }] s).pending = [(t', 1)] ∧ t'.node = T 0 := by
  intro m
  induction m with
  | zero =>
    intro k hkd fuel hf s hc hs hp ho hn
    obtain rfl : k = d := hkd
    rw [show down k U T k = T 0 from if_neg (Nat.lt_irrefl k)]
    have hpend := request_pending (view s) { fid := k + 1, node := T 0 } hp (by rw [show (view s).occ = [] from ho]; rfl)
    have h' := run_task sh.noIncl (fuel := fuel) (by omega) (t := { fid := k + 1, node := T 0 }) (sh.t_goes 0 sh.kpos)
      ⟨hc, rfl⟩ (done_none sh sh.kpos hs hpend rfl)
    refine ⟨h'.1, h'.subs.trans hs, h'.obs, h'.occ.trans ?_, _, h'.pending.trans hpend, rfl⟩
    simp [View.request, bump, view, ho]
  | succ m ih =>
    intro k hkd fuel hf s hc hs hp ho hn
    have hk : k < d := by omega
    rw [show down d U T k = U k from if_pos hk]
    obtain ⟨mn, hst, hmid⟩ := sh.starts k hk
    have hidle : (view s).subs.any (·.node == U k) = false := by
      rw [show (view s).subs = subsAt U k from hs, List.any_eq_false]
      intro x hx
      obtain ⟨i, hi, rfl⟩ := (mem_subsAt U k x).mp hx
      simpa [tk] using fun e => Nat.ne_of_lt hi (sh.inj i k (by omega) hk e)
    obtain ⟨s', e, h'⟩ := run_enter (fuel := fuel) (by omega) (t := { fid := k + 1, node := U k }) (sh.u_goes k hk) hst
      (hmid ▸ sh.st_goes k hk) ⟨hc, rfl⟩ hidle
    rw [e, show (view s).nextFid = k + 1 + 1 from hn]
    have := ih (k + 1) (by omega) (fuel - 2) (by omega) s' h'.1 (h'.subs.trans ((congrArg (· ++ [_]) hs).trans (subsAt_succ U k).symm))
      (h'.pending.trans hp) (h'.occ.trans ho) (h'.nextFid.trans (congrArg (· + 1) hn))
    rwa [h'.obs] at this

theorem bump_fresh (occ : List (String × Nat)) (x y : String) (hxy : x ≠ y) (h : occ.find? (·.1 == x) = none) :
    (bump occ y).2.find? (·.1 == x) = none :=
  C01Chain.find_occ_after_bump occ y x _ hxy h

theorem inner_step (sh : Shape p d K U S E T) (i : Nat) (hi : i + 1 < K) (s : St) (t : Tok) (r : List (String × Int))
    (hc : Calm s) (hs : s.subs = subsAt U d) (hp : s.pending = [(t, 1)]) (ht : t.node = T i)
    (hoC : s.occ.find? (·.1 == "C") = none) (hoT : ∀ j, i < j → j < K → s.occ.find? (·.1 == T j) = none) :
    (answer Cfg.ideal p s (T i) 1 (.ok r)).obs = [.req (T (i + 1))] ∧ Calm (answer Cfg.ideal p s (T i) 1 (.ok r)) ∧
    (answer Cfg.ideal p s (T i) 1 (.ok r)).subs = subsAt U d ∧
    (∃ t', (answer Cfg.ideal p s (T i) 1 (.ok r)).pending = [(t', 1)] ∧ t'.node = T (i + 1)) ∧
    (answer Cfg.ideal p s (T i) 1 (.ok r)).occ.find? (·.1 == "C") = none ∧
    (∀ j, i + 1 < j → j < K → (answer Cfg.ideal p s (T i) 1 (.ok r)).occ.find? (·.1 == T j) = none) := by
  have hg : Goes p t.node .task (U (d - 1)) (T (i + 1)) := by
    rw [ht]; simpa [nextT, hi] using sh.t_goes i (by omega)
  obtain ⟨n, s1, -, e1, h1⟩ := answer_ok (r := r) hg ⟨hc, rfl⟩ hp
  have hfuel := sh.fuel
  have h2 := run_task sh.noIncl (fuel := fuelFor p) (by omega) (t := { t with node := T (i + 1) }) (sh.t_goes (i + 1) hi)
    h1 (done_none sh hi hs rfl rfl)
  rw [← ht, e1]
  refine ⟨h2.obs, h2.1, h2.subs.trans hs, ⟨_, h2.pending.trans (request_pending _ _ rfl (hoT (i + 1) (by omega) hi)), rfl⟩,
    (congrArg (List.find? _) h2.occ).trans (bump_fresh _ _ _ (fun e => sh.tC (i + 1) hi e.symm) hoC), fun j hj hjK =>
    (congrArg (List.find? _) h2.occ).trans (bump_fresh _ _ _ (fun e => by have := sh.tinj j (i + 1) hjK hi e; omega)
      (hoT j (by omega) hjK))⟩

/-- the innermost tasks from the `i`-th on, `m` of them -/
def namesFrom (T : Nat → String) : Nat → Nat → List String
  | _, 0 => []
  | i, m + 1 => T i :: namesFrom T (i + 1) m

/-- answer the named requests (first occurrence each) one after the other, at configuration `cfg`: the observations of every
step, and the final state -/
def traceC (cfg : Cfg) (p : Proc) : St → List (String × List (String × Int)) → List (List Obs) × St
  | s, [] => ([], s)
  | s, (a, r) :: rest =>
    ((answer cfg p s a 1 (.ok r)).obs :: (traceC cfg p (answer cfg p s a 1 (.ok r)) rest).1,
     (traceC cfg p (answer cfg p s a 1 (.ok r)) rest).2)

abbrev trace (p : Proc) := traceC Cfg.ideal p

theorem trace_fst (p : Proc) : ∀ (as : List (String × List (String × Int))) (s : St),
    (trace p s as).1 = Bpmn.Props.C01Chain.runChain Cfg.ideal p s as
  | [], _ => rfl
  | (a, r) :: rest, s => by simp [trace, traceC, Bpmn.Props.C01Chain.runChain, ← trace_fst p rest]

/-- what the token game prescribes from the current innermost task on (`comp`: the completions of the levels): after each
innermost task the next one, after the last one every level returns and `C` is requested, after `C` the end event -/
def expectedNest (comp : List Obs) : List String → List (List Obs)
  | [] => []
  | [_] => [comp ++ [.req "C"], [.complete "e"]]
  | _ :: b :: rest => [.req b] :: expectedNest comp (b :: rest)

theorem inner_chain (sh : Shape p d K U S E T) : ∀ (m i : Nat), i + m + 1 = K → ∀ (s : St) (t : Tok),
    Calm s → s.subs = subsAt U d → s.pending = [(t, 1)] → t.node = T i → s.occ.find? (·.1 == "C") = none →
    (∀ j, i < j → j < K → s.occ.find? (·.1 == T j) = none) → ∀ (rs : List (List (String × Int))), rs.length = m + 2 →
    (trace p s ((namesFrom T i (m + 1) ++ ["C"]).zip rs)).1 = expectedNest (completions E d) (namesFrom T i (m + 1)) ∧
    (trace p s ((namesFrom T i (m + 1) ++ ["C"]).zip rs)).2.topLive p = false ∧
    (trace p s ((namesFrom T i (m + 1) ++ ["C"]).zip rs)).2.outOfScope = none ∧
    (trace p s ((namesFrom T i (m + 1) ++ ["C"]).zip rs)).2.subs = [] := by
  intro m
  induction m with
  | zero =>
    intro i hiK s t hc hs hp ht hoC _ rs hrs
    obtain rfl : i = K - 1 := by omega
    match rs, hrs with
    | [r1, r2], _ =>
      have hK := sh.kpos
      have hd := sh.pos
      have hfuel := sh.fuel
      have hg : Goes p t.node .task (U (d - 1)) (E (d - 1)) := by
        rw [ht]; simpa [nextT, show ¬ (K - 1 + 1 < K) by omega] using sh.t_goes (K - 1) (by omega)
      obtain ⟨_, s1, -, e1, h1⟩ := answer_ok (r := r1) hg ⟨hc, rfl⟩ hp
      obtain ⟨c2, hs2, o2, t2, hp2, ht2⟩ := ascend sh d (Nat.le_refl d) (fuelFor p) (by omega) s1 { t with node := E (d - 1) } h1.1
        (h1.subs.trans hs) h1.pending ((congrArg (List.find? _) h1.occ).trans hoC) (if_neg (by omega)).symm
      rw [h1.obs] at o2
      generalize runWork Cfg.ideal p (fuelFor p) [{ t with node := E (d - 1) }] s1 = s2 at *
      obtain ⟨_, s3, -, e3, h3⟩ := answer_ok (r := r2) (ht2 ▸ sh.c_goes) ⟨c2, rfl⟩ hp2
      have h4 := run_end sh.noIncl (fuel := fuelFor p) (by omega) (t := { t2 with node := "e" }) sh.e_end h3 hs2
      simp only [namesFrom, List.cons_append, List.nil_append, List.zip_cons_cons, List.zip_nil_right, trace, traceC, expectedNest]
      rw [ht2] at e3
      rw [← ht, e1, e3]
      exact ⟨by rw [o2, h4.obs]; rfl, (h4.live "-").trans (by simp [View.live, show (view s2).subs = [] from hs2]), h4.1.oos,
        h4.subs.trans hs2⟩
  | succ m ih =>
    intro i hiK s t hc hs hp ht hoC hoT rs hrs
    match rs, hrs with
    | r :: rs', hrs' =>
      obtain ⟨o1, c1, s1, ⟨t1, p1, n1⟩, oC1, oT1⟩ := inner_step sh i (by omega) s t r hc hs hp ht hoC hoT
      have := ih (i + 1) (by omega) _ t1 c1 s1 p1 n1 oC1 oT1 rs' (by simpa using hrs')
      simp only [namesFrom, List.cons_append, List.zip_cons_cons, trace, traceC, expectedNest] at this ⊢
      exact ⟨by rw [o1, this.1], this.2⟩

/-- a whole run of a nest: start, then the innermost tasks in order, then `C` — each answered once -/
structure NestRun (p : Proc) (d K : Nat) (E T : Nat → String) (s0 : St) (steps : List (List Obs) × St) : Prop where
  /-- starting the instance enters every level and requests the first innermost task — nothing else -/
  start_obs : s0.obs = [.req (T 0)]
  /-- after each innermost task the next one is requested; after the last one the levels return innermost first, one
  completion each, and the task behind the outermost sub-process is requested — exactly once; after it the end event -/
  steps_obs : steps.1 = expectedNest (completions E d) (namesFrom T 0 K)
  /-- nothing is left alive -/
  completes : steps.2.topLive p = false
  /-- no parent token is left inside any sub-process node -/
  all_returned : steps.2.subs = []
  in_scope : s0.outOfScope = none ∧ steps.2.outOfScope = none

/-- **C12, any nesting depth, any chain inside.** For every program of the nest shape — `d ≥ 1` sub-process levels around a
chain of `K ≥ 1` tasks, a task behind the outermost level — every initial data and whatever the answers carry, the token game
(`Cfg.ideal`) requests the innermost tasks one after the other as the chain alone would, returns through every level exactly
once after the last of them is answered, requests the following task once, and the instance completes. -/
theorem nest_run (sh : Shape p d K U S E T) (vars : Vars) (rs : List (List (String × Int))) (hrs : rs.length = K + 1) :
    NestRun p d K E T (start Cfg.ideal p vars)
      (trace p (start Cfg.ideal p vars) ((namesFrom T 0 K ++ ["C"]).zip rs)) := by
  obtain ⟨sn, hstarts, hsid⟩ := sh.topStart
  have hfuel := sh.fuel
  have hK := sh.kpos
  obtain ⟨s1, e1, h1⟩ := start_eq (vars := vars) hstarts (hsid ▸ sh.s_goes) (by omega)
  obtain ⟨c0, hsub0, hobs0, hocc0, t0, hpend0, ht0⟩ := descend sh d 0 (by omega) (fuelFor p - 1) (by omega) s1 h1.1
    h1.subs h1.pending h1.occ h1.nextFid
  rw [show down d U T 0 = U 0 from if_pos sh.pos, ← e1] at c0 hsub0 hobs0 hocc0 hpend0
  rw [h1.obs] at hobs0
  generalize start Cfg.ideal p vars = s0 at *
  have hoC : s0.occ.find? (·.1 == "C") = none := by
    rw [hocc0]; simpa using sh.tC 0 hK
  have hoT : ∀ j, 0 < j → j < K → s0.occ.find? (·.1 == T j) = none := by
    intro j hj hjK
    rw [hocc0]
    simpa using fun e => Nat.ne_of_lt hj (sh.tinj 0 j hK hjK e)
  obtain ⟨m, rfl⟩ : ∃ m, K = m + 1 := ⟨K - 1, by omega⟩
  obtain ⟨h1, h2, h3, h4⟩ := inner_chain sh m 0 (by omega) s0 t0 c0 hsub0 hpend0 ht0 hoC hoT rs (by omega)
  exact ⟨hobs0, h1, h2, h4, c0.oos, h3⟩


/-- names: a family letter followed by `i` times `x` -/
def nm (c : Char) (i : Nat) : String := String.ofList (c :: List.replicate i 'x')

theorem nm_inj (c c' : Char) (i j : Nat) (h : nm c i = nm c' j) : c = c' ∧ i = j := by
  unfold nm at h
  have := String.ofList_injective h
  simpa using this

theorem nm_beq (c : Char) (j i : Nat) : (nm c j == nm c i) = decide (j = i) := by
  rw [Bool.eq_iff_iff, beq_iff_eq, decide_eq_true_iff]
  exact ⟨fun e => (nm_inj c c j i e).2, fun e => e ▸ rfl⟩

theorem ne_lit (c : Char) (i : Nat) (x : String) (h : x.toList.head? ≠ some c) : nm c i ≠ x := by
  rintro rfl
  exact h (by simp [nm])

section families
variable {α : Type} (F : Nat → α)

theorem filter_fam_nil (q : α → Bool) {d : Nat} (h : ∀ j, j < d → q (F j) = false) : ((List.range d).map F).filter q = [] := by
  apply List.filter_eq_nil_iff.mpr
  intro x hx
  obtain ⟨j, hj, rfl⟩ := List.mem_map.mp hx
  simp [h j (List.mem_range.mp hj)]

theorem filter_fam_one (q : α → Bool) (i : Nat) (h : ∀ j, q (F j) = decide (j = i)) :
    ∀ (d : Nat), i < d → ((List.range d).map F).filter q = [F i] := by
  intro d
  induction d with
  | zero => intro hi; omega
  | succ d ih =>
    intro hi
    rw [List.range_succ, List.map_append, List.filter_append]
    rcases Nat.lt_succ_iff_lt_or_eq.mp hi with hd | rfl
    · rw [ih hd]
      simp [h d, Nat.ne_of_gt hd]
    · rw [filter_fam_nil F q (fun j hj => by rw [h j]; simpa using Nat.ne_of_lt hj)]
      simp [h i]

/-! look-up in a list of families `F 0, F 1, …` named `nm c 0, nm c 1, …`, each family after a letter `c` of its own -/

variable (id : α → String) {c : Char} (hid : ∀ j, id (F j) = nm c j)
include hid

theorem find_fam {i d : Nat} (hi : i < d) : ((List.range d).map F).find? (fun x => id x == nm c i) = some (F i) := by
  rw [← List.head?_filter, filter_fam_one F _ i (fun j => by rw [hid j]; exact nm_beq c j i) d hi]
  rfl

theorem find_fam_ne {c' : Char} (h : c ≠ c') (i d : Nat) : ((List.range d).map F).find? (fun x => id x == nm c' i) = none := by
  rw [← List.head?_filter, filter_fam_nil F _ fun j _ => by rw [hid j]; exact beq_eq_false_iff_ne.mpr fun e => h (nm_inj _ _ _ _ e).1]
  rfl

omit hid in
theorem find_lits (lits : List α) (c : Char) (i : Nat) (h : ∀ a ∈ lits, (id a).toList.head? ≠ some c) :
    lits.find? (fun x => id x == nm c i) = none :=
  List.find?_eq_none.mpr fun a ha e => ne_lit c i _ (h a ha) (beq_iff_eq.mp e).symm

end families

def uN (i : Nat) : Node :=
  { id := nm 'U' i, kind := .sub, ins := [], outs := [nm 'o' i], parent := if i = 0 then "-" else nm 'U' (i - 1) }
def iS (i : Nat) : Node := { id := nm 'S' i, kind := .start, ins := [], outs := [nm 'g' i], parent := nm 'U' i }
def iE (i : Nat) : Node := { id := nm 'E' i, kind := .end_, ins := [], outs := [], parent := nm 'U' i }
def tN (d : Nat) (i : Nat) : Node := { id := nm 'T' i, kind := .task, ins := [], outs := [nm 't' i], parent := nm 'U' (d - 1) }
def oF (i : Nat) : SFlow := { id := nm 'o' i, src := nm 'U' i, dst := if i = 0 then "C" else nm 'E' (i - 1), cond := .none }
def gF (d i : Nat) : SFlow := { id := nm 'g' i, src := nm 'S' i, dst := if i + 1 < d then nm 'U' (i + 1) else nm 'T' 0, cond := .none }
def tF (d K i : Nat) : SFlow :=
  { id := nm 't' i, src := nm 'T' i, dst := if i + 1 < K then nm 'T' (i + 1) else nm 'E' (d - 1), cond := .none }

/-- `d` sub-process levels around the chain of tasks `T, Tx, Txx, …` (`K` of them), the task `C` behind the outermost level -/
def nestProc (d K : Nat) : Proc :=
  { nodes := [{ id := "s", kind := .start, ins := [], outs := ["fs"] },
              { id := "C", kind := .task, ins := [], outs := ["fc"] },
              { id := "e", kind := .end_, ins := [], outs := [] }] ++
             (List.range d).map uN ++ (List.range d).map iS ++ (List.range d).map iE ++ (List.range K).map (tN d),
    flows := [{ id := "fs", src := "s", dst := nm 'U' 0, cond := .none },
              { id := "fc", src := "C", dst := "e", cond := .none }] ++
             (List.range d).map oF ++ (List.range d).map (gF d) ++ (List.range K).map (tF d K) }

theorem node_U (d K i : Nat) (hi : i < d) : (nestProc d K).node? (nm 'U' i) = some (uN i) := by
  unfold Proc.node? nestProc
  simp only [List.find?_append]
  rw [find_lits Node.id, find_fam uN Node.id (fun _ => rfl) hi]
  · rfl
  · decide

theorem node_S (d K i : Nat) (hi : i < d) : (nestProc d K).node? (nm 'S' i) = some (iS i) := by
  unfold Proc.node? nestProc
  simp only [List.find?_append]
  rw [find_lits Node.id, find_fam_ne uN Node.id (fun _ => rfl), find_fam iS Node.id (fun _ => rfl) hi]
  · rfl
  all_goals decide

theorem node_E (d K i : Nat) (hi : i < d) : (nestProc d K).node? (nm 'E' i) = some (iE i) := by
  unfold Proc.node? nestProc
  simp only [List.find?_append]
  rw [find_lits Node.id, find_fam_ne uN Node.id (fun _ => rfl), find_fam_ne iS Node.id (fun _ => rfl),
    find_fam iE Node.id (fun _ => rfl) hi]
  · rfl
  all_goals decide

theorem node_T (d K i : Nat) (hi : i < K) : (nestProc d K).node? (nm 'T' i) = some (tN d i) := by
  unfold Proc.node? nestProc
  simp only [List.find?_append]
  rw [find_lits Node.id, find_fam_ne uN Node.id (fun _ => rfl), find_fam_ne iS Node.id (fun _ => rfl),
    find_fam_ne iE Node.id (fun _ => rfl), find_fam (tN d) Node.id (fun _ => rfl) hi]
  · rfl
  all_goals decide

theorem flow_o (d K i : Nat) (hi : i < d) : (nestProc d K).flow? (nm 'o' i) = some (oF i) := by
  unfold Proc.flow? nestProc
  simp only [List.find?_append]
  rw [find_lits SFlow.id, find_fam oF SFlow.id (fun _ => rfl) hi]
  · rfl
  · decide

theorem flow_g (d K i : Nat) (hi : i < d) : (nestProc d K).flow? (nm 'g' i) = some (gF d i) := by
  unfold Proc.flow? nestProc
  simp only [List.find?_append]
  rw [find_lits SFlow.id, find_fam_ne oF SFlow.id (fun _ => rfl), find_fam (gF d) SFlow.id (fun _ => rfl) hi]
  · rfl
  all_goals decide

theorem flow_t (d K i : Nat) (hi : i < K) : (nestProc d K).flow? (nm 't' i) = some (tF d K i) := by
  unfold Proc.flow? nestProc
  simp only [List.find?_append]
  rw [find_lits SFlow.id, find_fam_ne oF SFlow.id (fun _ => rfl), find_fam_ne (gF d) SFlow.id (fun _ => rfl),
    find_fam (tF d K) SFlow.id (fun _ => rfl) hi]
  · rfl
  all_goals decide

theorem nest_shape (d K : Nat) (hd : 0 < d) (hK : 0 < K) :
    Shape (nestProc d K) d K (nm 'U') (nm 'S') (nm 'E') (nm 'T') where
  pos := hd
  kpos := hK
  noIncl := by
    unfold nestProc
    simp only [List.filter_append]
    rw [filter_fam_nil uN _ fun _ _ => rfl, filter_fam_nil iS _ fun _ _ => rfl, filter_fam_nil iE _ fun _ _ => rfl,
      filter_fam_nil (tN d) _ fun _ _ => rfl]
    rfl
  topStart := by
    refine ⟨{ id := "s", kind := .start, ins := [], outs := ["fs"] }, ?_, rfl⟩
    unfold nestProc
    simp only [List.filter_append]
    rw [filter_fam_nil uN _ fun _ _ => rfl, filter_fam_nil iE _ fun _ _ => rfl, filter_fam_nil (tN d) _ fun _ _ => rfl,
      filter_fam_nil iS _ fun j _ => (Bool.true_and _).trans (beq_eq_false_iff_ne.mpr (ne_lit 'U' j "-" (by decide)))]
    rfl
  s_goes := ⟨_, "fs", _, rfl, rfl, rfl, rfl, rfl, rfl, rfl, rfl⟩
  u_goes := fun i hi => ⟨uN i, nm 'o' i, oF i, node_U d K i hi, rfl, rfl, by simp [uN, par], rfl, flow_o d K i hi, rfl, by simp [oF, up]⟩
  starts := fun i hi => by
    refine ⟨iS i, ?_, rfl⟩
    unfold nestProc
    simp only [List.filter_append]
    rw [filter_fam_nil uN _ fun _ _ => Bool.and_false _, filter_fam_nil iE _ fun _ _ => Bool.and_false _,
      filter_fam_nil (tN d) _ fun _ _ => Bool.and_false _,
      filter_fam_one iS _ i (fun j => (Bool.and_true _).trans (nm_beq 'U' j i)) d hi]
    simp [List.filter, show ("-" == nm 'U' i) = false from beq_eq_false_iff_ne.mpr (ne_lit 'U' i "-" (by decide)).symm]
  st_goes := fun i hi => ⟨iS i, nm 'g' i, gF d i, node_S d K i hi, rfl, rfl, rfl, rfl, flow_g d K i hi, rfl, by simp [gF, down]⟩
  ends := fun i hi => ⟨iE i, node_E d K i hi, rfl, rfl, rfl⟩
  t_goes := fun i hi => ⟨tN d i, nm 't' i, tF d K i, node_T d K i hi, rfl, rfl, rfl, rfl, flow_t d K i hi, rfl, by simp [tF, nextT]⟩
  tinj := fun i j _ _ h => (nm_inj _ _ _ _ h).2
  tC := fun i _ => ne_lit 'T' i "C" (by decide)
  c_goes := ⟨_, "fc", _, rfl, rfl, rfl, rfl, rfl, rfl, rfl, rfl⟩
  e_end := ⟨_, rfl, rfl, rfl, rfl⟩
  inj := fun i j _ _ h => (nm_inj _ _ _ _ h).2
  notTop := fun i _ => ne_lit 'U' i "-" (by decide)
  fuel := by
    simp [fuelFor, nestProc]
    omega

/-- **C12 at every nesting depth and chain length, on a concrete family.** `nestProc d K`: the chain `T → Tx → …` of `K ≥ 1`
tasks inside `d ≥ 1` nested sub-processes, the task `C` behind them. -/
theorem nestProc_run (d K : Nat) (hd : 0 < d) (hK : 0 < K) (vars : Vars) (rs : List (List (String × Int)))
    (hrs : rs.length = K + 1) :
    NestRun (nestProc d K) d K (nm 'E') (nm 'T') (start Cfg.ideal (nestProc d K) vars)
      (trace (nestProc d K) (start Cfg.ideal (nestProc d K) vars) ((namesFrom (nm 'T') 0 K ++ ["C"]).zip rs)) :=
  nest_run (nest_shape d K hd hK) vars rs hrs

/-- the task requests among a step's observations -/
def requests (os : List Obs) : List Obs := os.filter (fun o => match o with | .req _ => true | _ => false)

theorem requests_completions (E : Nat → String) (k : Nat) : requests (completions E k) = [] := by
  apply List.filter_eq_nil_iff.mpr
  intro o ho
  obtain ⟨i, _, rfl⟩ := List.mem_map.mp ho
  simp

theorem expectedNest_requests (comp : List Obs) (hc : requests comp = []) : ∀ (inner : List String), inner ≠ [] →
    (expectedNest comp inner).map requests = (Bpmn.Props.C01Chain.expected (inner ++ ["C"])).map requests
  | [], h => absurd rfl h
  | [a], _ => by
    simp only [expectedNest, List.cons_append, List.nil_append, Bpmn.Props.C01Chain.expected, List.map]
    have : requests (comp ++ [Obs.req "C"]) = requests [Obs.req "C"] := by
      unfold requests at hc ⊢
      rw [List.filter_append, hc]; rfl
    rw [this]
  | a :: b :: rest, _ => by
    simp only [expectedNest, List.cons_append, Bpmn.Props.C01Chain.expected, List.map]
    have ih := expectedNest_requests comp hc (b :: rest) (by simp)
    simp only [List.cons_append] at ih
    rw [ih]

/-- **Wrapped = inlined, at every depth, for every chain.** The requests of `nestProc d K` — on start and after each answer —
are those of the chain `s → T → Tx → … → C → e` in which the tasks are not wrapped at all (the completions, which differ by the
inner end events, are compared by `nest_run` and `Props/C01Chain.chain_conformance` themselves). -/
theorem nest_as_inline (d K : Nat) (hd : 0 < d) (hK : 0 < K) (vars : Vars) (rs : List (List (String × Int)))
    (hrs : rs.length = K + 1) (fl : String → String)
    (hwf : Bpmn.Props.C01Chain.Wf fl (namesFrom (nm 'T') 0 K ++ ["C"])) :
    requests (start Cfg.ideal (nestProc d K) vars).obs =
      requests (start Cfg.ideal (Bpmn.Props.C01Chain.chainProc fl (namesFrom (nm 'T') 0 K ++ ["C"])) vars).obs ∧
    (Bpmn.Props.C01Chain.runChain Cfg.ideal (nestProc d K) (start Cfg.ideal (nestProc d K) vars)
        ((namesFrom (nm 'T') 0 K ++ ["C"]).zip rs)).map requests =
      (Bpmn.Props.C01Chain.runChain Cfg.ideal (Bpmn.Props.C01Chain.chainProc fl (namesFrom (nm 'T') 0 K ++ ["C"]))
        (start Cfg.ideal (Bpmn.Props.C01Chain.chainProc fl (namesFrom (nm 'T') 0 K ++ ["C"])) vars)
        ((namesFrom (nm 'T') 0 K ++ ["C"]).zip rs)).map requests := by
  obtain ⟨m, rfl⟩ : ∃ m, K = m + 1 := ⟨K - 1, by omega⟩
  have hlen : (namesFrom (nm 'T') 0 (m + 1) ++ ["C"]).length = m + 2 := by
    have : ∀ (i n : Nat), (namesFrom (nm 'T') i n).length = n := by
      intro i n; induction n generalizing i with
      | zero => rfl
      | succ n ih => simp [namesFrom, ih]
    simp [this]
  have hnames : namesFrom (nm 'T') 0 (m + 1) ++ ["C"] = nm 'T' 0 :: (namesFrom (nm 'T') 1 m ++ ["C"]) := by simp [namesFrom]
  have n := nestProc_run d (m + 1) hd hK vars rs hrs
  rw [hnames] at hwf ⊢
  obtain ⟨c1, c2⟩ := Bpmn.Props.C01Chain.chain_conformance Cfg.ideal fl (nm 'T' 0) (namesFrom (nm 'T') 1 m ++ ["C"]) vars rs hwf
    (by rw [← hnames, hlen]; omega)
  rw [c1, c2, n.start_obs]
  refine ⟨rfl, ?_⟩
  rw [← hnames, ← trace_fst, n.steps_obs]
  exact expectedNest_requests _ (requests_completions _ _) _ (by simp [namesFrom])

/-- non-vacuity of the inline comparison: flows named after their source, three tasks inside -/
example : Bpmn.Props.C01Chain.Wf (fun x => "f_" ++ x) (namesFrom (nm 'T') 0 3 ++ ["C"]) := ⟨by decide, by decide⟩

end Bpmn.Props.C12Nest
