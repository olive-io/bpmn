import Bpmn.Lemmas.TaskTrace
/-!
# C08 — Task requests: one effective answer, declared results stored, error modes kept

Model: `Bpmn.Model.TaskTrace` — the small-step machine of one task request (any number of `Do` callers × the
`process` goroutine × the reader of `response`, channel capacities and the shape of `Do`'s send as parameters),
`Retry` and the error switch of the flow loop; `Bpmn.Model.Engine.applyDeclared` for the result filter.

All theorems quantify over every schedule (list of scheduler choices of any length, hence any number of callers).
`Ok cfg` is the side condition on the extracted facts under which no `Do` blocks: the send sits in a `select` with a
`default`, or with a `<-done` alternative while `response` is buffered. Where it fails (a plain blocking send: the facts
as first extracted, before repair 44cbc18) `C08_counterexample_third_do_blocks` is the witness; `C08_partial` holds
regardless.
-/
namespace Bpmn.Props.C08
open Bpmn.Model Bpmn.Model.TaskTrace Bpmn.Lemmas.TaskTrace

/-- **`response` receives at most one value**, and it is the value of the first `Do` whose send completed, or the
context / timeout error `process` made itself. For all facts, all schedules, any number of callers. -/
theorem tt_first_answer_wins (cfg : Cfg) (sched : List Act) :
    (run cfg init sched).respLog.length ≤ 1 ∧
    ∀ v ∈ (run cfg init sched).respLog,
      v = .errCtx ∨ v = .errTimeout ∨ ∃ i, (run cfg init sched).sendLog.head? = some i ∧ v = .val i := by
  have h := inv_run sched (inv_init cfg)
  exact ⟨h.respLen, h.logGood⟩

/-- what the reader of `response` gets is that one value -/
theorem tt_reader_gets_logged (cfg : Cfg) (sched : List Act) (v : Val)
    (h : (run cfg init sched).cons = .got v) : v ∈ (run cfg init sched).respLog :=
  (inv_run sched (inv_init cfg)).consLogged v h

/-- **a later `Do` has no effect**: once `done` is closed a fresh call returns in its first step and changes nothing
but its own program counter -/
theorem tt_late_do_no_effect (cfg : Cfg) (s : St) (i : Nat) (hd : s.done = true) (hp : s.pc i = .start) :
    step cfg s (.check i) = some (s.setPc i .returned) := by
  simp [step, hp, hd]

theorem tt_done_stable (cfg : Cfg) (s : St) (sched : List Act) (hd : s.done = true) : (run cfg s sched).done = true :=
  run_induction (P := fun s => s.done = true) (fun hd hs => done_stable hs hd) sched hd

/-- **Non-blocking, positive side.** Under `Ok cfg`, in every reachable state and for every caller `i` that has not
returned: (1) one of `i`'s own acts or of `process`'s three internal acts is enabled (no caller ever waits for another
caller or for an outside event); (2) each own step strictly advances `i`'s program counter, which has four values, so
`i` takes at most three own steps, and no step of anybody sets `i` or `process` (four stages) back; (3) if only `i` and
`process` are let run — `drive i`: six attempts of `i`, three of `process` — `i` has returned. -/
theorem tt_do_returns (cfg : Cfg) (hok : Ok cfg = true) (sched : List Act) (i : Nat) :
    ((run cfg init sched).pc i ≠ .returned → ∃ a ∈ coreActs i, (step cfg (run cfg init sched) a).isSome = true) ∧
    (∀ a ∈ ownActs i, ∀ s', step cfg (run cfg init sched) a = some s' →
        pcRank ((run cfg init sched).pc i) < pcRank (s'.pc i)) ∧
    (∀ a s', step cfg (run cfg init sched) a = some s' →
        pcRank ((run cfg init sched).pc i) ≤ pcRank (s'.pc i) ∧ procRank (run cfg init sched).proc ≤ procRank s'.proc) ∧
    (run cfg (run cfg init sched) (drive i)).pc i = .returned := by
  have h := inv_run sched (inv_init cfg)
  exact ⟨tt_progress cfg hok _ h i, fun a ha s' hs => caller_own_step ha (step_inv hs),
    fun a s' hs => ⟨caller_rank_mono (step_inv hs) i, proc_rank_mono (step_inv hs)⟩, tt_drive cfg hok _ h i⟩

/-- **Non-blocking, negative side.** If `Ok cfg` fails there is an explicit schedule (`witness cfg`) after which caller 0
has passed the `done` check and stays in front of its send WHATEVER happens afterwards. For a blocking send with forward
capacity `c` these are `c + 2` callers: the third concurrent caller for capacity 1. -/
theorem C08_counterexample_third_do_blocks (cfg : Cfg) (h : Ok cfg = false) :
    (run cfg init (witness cfg)).pc 0 = .passed ∧
    ∀ sched, (run cfg (run cfg init (witness cfg)) sched).pc 0 = .passed := by
  have hs := witness_stuck cfg h
  exact ⟨hs.1, fun sched => (stuck_run sched hs).1⟩

/-- the facts as first extracted, before repair 44cbc18: forward / response capacity 1, plain blocking send -/
def cfgBlocking1 : Cfg := { forwardCap := 1, responseCap := 1, doSendHasDefault := false, doSendHasDoneAlt := false }

/-- **The witness of DESIGN.md, concretely**: three callers pass the `done` check before `process` runs; caller 0's
value is forwarded (and read), caller 1's sits in the buffer, callers 0 and 1 return, caller 2 blocks for ever. -/
theorem C08_counterexample_third_do_blocks_current :
    let s := run cfgBlocking1 init witnessThree
    s.pc 0 = .returned ∧ s.pc 1 = .returned ∧ s.pc 2 = .passed ∧ s.cons = .got (.val 0) ∧ s.done = true ∧
    ∀ sched, (run cfgBlocking1 s sched).pc 2 = .passed := by
  -- one evaluation of the schedule gives what the statement lists and what `Stuck` needs besides
  have h : let s := run cfgBlocking1 init witnessThree
      s.pc 0 = .returned ∧ s.pc 1 = .returned ∧ s.pc 2 = .passed ∧ s.cons = .got (.val 0) ∧ s.done = true ∧
      cfgBlocking1.forwardCap ≤ s.fwd.length ∧ s.proc ≠ .waiting := by decide
  obtain ⟨h0, h1, h2, h3, h4, h5, h6⟩ := h
  exact ⟨h0, h1, h2, h3, h4, fun sched => (stuck_run sched ⟨h2, h5, h6, .inl rfl⟩).1⟩

/-- two callers one after the other both return even with the blocking send (the interleavings of two callers are the
harness's job) -/
example : (run cfgBlocking1 init [.check 0, .send 0, .ret 0, .recv, .check 1, .send 1, .ret 1, .respond, .close]).pc 1 = .returned := by
  decide

/-- **Retry bound** (flow loop + `Retry`), for every retry count, every failure pattern, every value of
`taskDefinition.Retries`:
1. fresh token, `f` failures answered with retry count `n ≥ 0`, then a success: exactly `min n f` additional requests;
2. the sentinel −1: every failure is retried;
3. any history whose retry handlers carry counts `≤ n` (none of them −1), any earlier attempts of the same token: at most
   `n` additional requests (fewer if the token has used attempts before — the counter belongs to the token);
4. every error answer emits the error trace first;
5. no handler / skip / an unknown mode continue once, exit ends the token, an exhausted retry ends the token. -/
theorem retry_bound :
    (∀ (td n : Int) (f : Nat), 0 ≤ n → requests (tokenRun td none (failThenOk n f)).1 = 1 + min n.toNat f) ∧
    (∀ (td : Int) (f : Nat) (r : Option Retry), requests (tokenRun td r (failThenOk (-1) f)).1 = 1 + f) ∧
    (∀ (td n : Int) (answers : List Ans) (r : Option Retry), 0 ≤ attemptsOf r → BoundedBy n answers →
        requests (tokenRun td r answers).1 ≤ 1 + (n - attemptsOf r).toNat ∧
        requests (tokenRun td r answers).1 ≤ 1 + n.toNat) ∧
    (∀ (td : Int) (r : Option Retry) (h : Handler) (rest : List Ans),
        ∃ tail, (tokenRun td r (.err h :: rest)).1 = .request :: .errorTrace :: tail) ∧
    (∀ (td : Int) (r : Option Retry) (rest : List Ans),
        (tokenRun td r (.err .none :: rest)) = ([.request, .errorTrace, .continued], r)) ∧
    (∀ (td : Int) (r : Option Retry) (k : Int) (rest : List Ans),
        (tokenRun td r (.err (.mode 2 k) :: rest)) = ([.request, .errorTrace, .continued], r)) ∧
    (∀ (td : Int) (r : Option Retry) (k : Int) (rest : List Ans),
        (tokenRun td r (.err (.mode 3 k) :: rest)) = ([.request, .errorTrace, .ended], r)) ∧
    (∀ (td : Int) (r : Option Retry) (n : Int) (rest : List Ans), n ≠ -1 → n ≤ attemptsOf r →
        (tokenRun td r (.err (.mode 1 n) :: rest)).1 = [.request, .errorTrace, .ended]) := by
  refine ⟨?_, fun td f r => retry_exact td (-1) f r, ?_, ?_, fun _ _ _ => rfl, fun _ _ _ _ => rfl, fun _ _ _ _ => rfl, ?_⟩
  · intro td n f hn
    rw [retry_exact, if_neg (by omega)]
    exact congrArg (fun m => 1 + min (Int.toNat m) f) (Int.sub_zero n)
  · intro td n answers r ha hb
    have := retry_bound_aux td n answers r hb
    exact ⟨this, Nat.le_trans this (Nat.add_le_add_left (Int.toNat_le_toNat (Int.sub_le_self n ha)) 1)⟩
  · intro td r h rest
    simp only [tokenRun, onAnswer]
    cases (errSwitch td r h).1 <;> simp
  · intro td r n rest h1 h2
    simp only [tokenRun, onAnswer, errSwitch_retry]
    rw [if_neg (by intro h; rcases h with h | h; exact h1 h; omega)]
    rfl

/-- **Stored = supplied restricted to the declared names** (`ApplyTaskResult` + the flow loop's `SetVariable`s): after
a successful answer a variable holds the supplied value iff its name is declared and supplied; every other variable is
unchanged. (`Props/C01.applyDeclared_undeclared` is the negative half.) -/
theorem applyDeclared_spec (n : Engine.Node) (vars : Vars) (results : List (String × Int)) (k : String) :
    (Engine.applyDeclared n vars results).get k =
      if n.hasResults = true ∧ k ∈ n.results then (supplied? results k).orElse (fun _ => vars.get k) else vars.get k := by
  rw [applyDeclared_eq]
  cases h : n.hasResults
  · simp
  · simp [restrictTo_get]

/-- the same for data outputs (`ApplyTaskDataOutput` + `aware.Put`): the filter is the same function -/
theorem applyOutputs_spec (declared : List String) (items : Vars) (supplied : List (String × Int)) (k : String) :
    (restrictTo declared Vars.set items supplied).get k =
      if k ∈ declared then (supplied? supplied k).orElse (fun _ => items.get k) else items.get k :=
  restrictTo_get supplied k declared items

/-- a declared, supplied name is stored with the supplied value -/
theorem applyDeclared_declared (n : Engine.Node) (vars : Vars) (results : List (String × Int)) (k : String) (v : Int)
    (hr : n.hasResults = true) (hk : k ∈ n.results) (hv : supplied? results k = some v) :
    (Engine.applyDeclared n vars results).get k = some v := by
  rw [applyDeclared_spec, if_pos ⟨hr, hk⟩, hv]; rfl

def FirstAnswerWins (cfg : Cfg) : Prop :=
  ∀ sched : List Act, (run cfg init sched).respLog.length ≤ 1 ∧
    ∀ v ∈ (run cfg init sched).respLog,
      v = .errCtx ∨ v = .errTimeout ∨ ∃ i, (run cfg init sched).sendLog.head? = some i ∧ v = .val i

def LateDoNoEffect (cfg : Cfg) : Prop :=
  ∀ (sched : List Act) (i : Nat), (run cfg init sched).done = true → (run cfg init sched).pc i = .start →
    step cfg (run cfg init sched) (.check i) = some ((run cfg init sched).setPc i .returned)

/-- every `Do` returns: never stuck, and returned after a bounded run of itself and `process` -/
def NonBlocking (cfg : Cfg) : Prop :=
  ∀ (sched : List Act) (i : Nat),
    ((run cfg init sched).pc i ≠ .returned → ∃ a ∈ coreActs i, (step cfg (run cfg init sched) a).isSome = true) ∧
    (run cfg (run cfg init sched) (drive i)).pc i = .returned

/-- clauses 1, 3 (its second bound) and 4 of `retry_bound` -/
def RetryBound : Prop :=
  (∀ (td n : Int) (f : Nat), 0 ≤ n → requests (tokenRun td none (failThenOk n f)).1 = 1 + min n.toNat f) ∧
  (∀ (td n : Int) (answers : List Ans) (r : Option Retry), 0 ≤ attemptsOf r → BoundedBy n answers →
      requests (tokenRun td r answers).1 ≤ 1 + n.toNat) ∧
  (∀ (td : Int) (r : Option Retry) (h : Handler) (rest : List Ans),
      ∃ tail, (tokenRun td r (.err h :: rest)).1 = .request :: .errorTrace :: tail)

def DeclaredOnly : Prop :=
  ∀ (n : Engine.Node) (vars : Vars) (results : List (String × Int)) (k : String),
    (Engine.applyDeclared n vars results).get k =
      if n.hasResults = true ∧ k ∈ n.results then (supplied? results k).orElse (fun _ => vars.get k) else vars.get k

/-- the full statement of C08 on the model, at the facts `cfg` of the source -/
def C08_statement (cfg : Cfg) : Prop :=
  FirstAnswerWins cfg ∧ LateDoNoEffect cfg ∧ NonBlocking cfg ∧ RetryBound ∧ DeclaredOnly

/-- what holds whatever the facts are: everything except `NonBlocking` -/
theorem C08_partial (cfg : Cfg) : FirstAnswerWins cfg ∧ LateDoNoEffect cfg ∧ RetryBound ∧ DeclaredOnly :=
  have ⟨exact, _, bounds, traceFirst, _⟩ := retry_bound
  ⟨tt_first_answer_wins cfg, fun _ i hd hp => tt_late_do_no_effect cfg _ i hd hp,
   ⟨exact, fun td n a r h1 h2 => (bounds td n a r h1 h2).2, traceFirst⟩, applyDeclared_spec⟩

theorem C08_general (cfg : Cfg) (hok : Ok cfg = true) : C08_statement cfg :=
  have ⟨first, late, retry, declared⟩ := C08_partial cfg
  ⟨first, late, fun sched i => have ⟨enabled, _, _, returns⟩ := tt_do_returns cfg hok sched i; ⟨enabled, returns⟩,
   retry, declared⟩

theorem C08_cex (cfg : Cfg) (h : Ok cfg = false) : ¬ C08_statement cfg := by
  intro ⟨_, _, nonBlocking, _⟩
  have hw := C08_counterexample_third_do_blocks cfg h
  have := (nonBlocking (witness cfg) 0).2
  rw [hw.2 (drive 0)] at this
  cases this

/-- the statement is false at the facts as first extracted -/
theorem C08_not_holds_blocking : ¬ C08_statement cfgBlocking1 := C08_cex _ (by decide)

/-- the dichotomy `Props/C08Current.lean` instantiates at the extracted facts -/
theorem C08_dichotomy (cfg : Cfg) : if Ok cfg = true then C08_statement cfg else ¬ C08_statement cfg := by
  split
  · next h => exact C08_general cfg h
  · next h => exact C08_cex cfg (by simpa using h)

/-! Non-vacuity of the hypotheses (tests, not the claim). -/
example : Ok { forwardCap := 1, responseCap := 1, doSendHasDefault := false, doSendHasDoneAlt := true } = true := by decide
example : Ok { forwardCap := 0, responseCap := 0, doSendHasDefault := true, doSendHasDoneAlt := false } = true := by decide
example : Ok cfgBlocking1 = false := by decide
example : Ok { forwardCap := 3, responseCap := 0, doSendHasDefault := false, doSendHasDoneAlt := true } = false := by decide
example : BoundedBy 2 [.err (.mode 1 2), .err (.mode 1 1), .err .none, .ok] := by
  intro k hk; simp at hk; omega
example : attemptsOf (some ⟨3, 2⟩) = 2 := rfl
example : requests (tokenRun 0 none (failThenOk 2 5)).1 = 3 := by decide
example : (tokenRun 7 none [.err (.mode 1 1), .err (.mode 1 1), .ok]).1 =
    [.request, .errorTrace, .request, .errorTrace, .ended] := by decide
/-- the same schedule as `witnessThree` is harmless once the send has a `<-done` alternative -/
example : (run { cfgBlocking1 with doSendHasDoneAlt := true } init (witnessThree ++ [.bail 2])).pc 2 = .returned := by decide
example : (Engine.applyDeclared { id := "T", kind := .task, ins := [], outs := [], results := ["r1", "r2"], hasResults := true }
    [("r2", 5), ("u", 0)] [("r1", 1), ("u", 7)]).get "u" = some 0 := by decide

end Bpmn.Props.C08
