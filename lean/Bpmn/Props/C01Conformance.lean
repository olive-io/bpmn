import Bpmn.Model.Engine
import Bpmn.Spec.TokenGame
import Bpmn.Lemmas.Engine
/-!
# C01 — refinement: a run of the code configuration that logs no cause IS a run of the token game

`Bpmn.Model.Engine` is one executable semantics parametric in `Cfg`; every deviation switch that changes
behaviour logs its name in `St.causes`. This file proves what that logging is worth, for every `cfg : Cfg` with
`cfg.eagerSettle = false` and `cfg.lateJoin = false` (the four deviation switches arbitrary), every program,
every state and every answer sequence: no function ever shrinks or resets the log (`mono_*`); if the OUTPUT of a
step has an empty log, the step is the token game's step (`conf_*`); hence the same for whole runs (`conformance_*`).

## What "the token game" has to mean (finding)

Against the single configuration `Cfg.ideal` the statement is FALSE as soon as `inclCohort = true`
(`C01Conformance_counterexample`): the inclusive join of the code may wait for a sibling token that can no
longer reach it. That is inside what the property allows (DESIGN §12.1: a join may release anywhere between
`early` = `Cfg.ideal` and `late && early` = `Cfg.idealLate`), so `igReady` rightly logs nothing — but the run then
equals the run of `Cfg.idealLate`, not of `Cfg.ideal`; and since the choice is made per join decision, one run can
follow `Cfg.ideal` at one join and `Cfg.idealLate` at another and equal NEITHER deterministic variant
(`mixed_run_is_neither_ideal_variant`). The specification is therefore the token game with an ADMISSIBLE JOIN
POLICY (`Bpmn.Spec.TokenGame`: all deviation switches off, every join decision inside the interval). Proved here:

* for every `cfg`: a cause-free run equals the run of `TokenGame` under `joinOf cfg`, and `joinOf cfg` is
  admissible (`conformance_*`, `joinOf_admissible`);
* `TokenGame` under `Join.early` / `Join.late` is exactly the engine at `Cfg.ideal` / `Cfg.idealLate`
  (`tokenGame_early_*`, `tokenGame_late_*`);
* hence, when `cfg.inclCohort = false`, the statement exactly as conjectured (`conformance_*_ideal`);
* per decision, a cause-free `igReady cfg` equals `igReady Cfg.ideal` or `igReady Cfg.idealLate`
  (`conf_igReady_either`);
* at a gateway with at most one incoming flow (a pure fork: no join clause, `Engine.lateAt` is vacuous) the interval
  collapses and a cause-free decision is the one of `Cfg.ideal` (`conf_igReady_fork_only`).

With `subStartSticky = true` the code does not re-arm the inner start events of a sub-process. `Engine.enterSub` logs
`sub_reentry` whenever an inner start event is still `activated`, not only when the completion monitor has fired:
from a state with the one but not the other the code configuration skips the sub-process content, and
`conformance_answer` (from ANY state) needs that step logged (`sticky_start_is_logged`).
-/
namespace Bpmn.Props.C01Conformance
open Bpmn.Model Bpmn.Model.Engine Bpmn.Lemmas.Engine
open Bpmn.Spec

/-- a whole run: start, then the driver's answers `(node, occurrence, answer)` in order -/
def runOps (cfg : Cfg) (p : Proc) (vars : Vars) (ops : List (String × Nat × Answer)) : St :=
  ops.foldl (fun s (n, o, a) => answer cfg p s n o a) (start cfg p vars)

theorem runOps_inv {cfg : Cfg} {p : Proc} (P : St → Prop) (hs : ∀ s n o a, P s → P (answer cfg p s n o a))
    (vars : Vars) (h0 : P (start cfg p vars)) (ops : List (String × Nat × Answer)) : P (runOps cfg p vars ops) := by
  unfold runOps
  generalize start cfg p vars = s0 at h0
  induction ops generalizing s0 with
  | nil => exact h0
  | cons x ops ih => exact ih _ (hs s0 x.1 x.2.1 x.2.2 h0)

theorem cause_nonempty (s : St) (c : String) : (s.cause c).causes ≠ [] := cause_ne_nil s c

theorem mono_selectFlows (cfg : Cfg) (p : Proc) (s : St) (t : Tok) (fls : List String) (u : Bool) :
    (selectFlows cfg p s t fls u).2.2.causes = [] → s.causes = [] := selectFlows_back cfg p s t fls u

theorem mono_igReady (cfg : Cfg) (p : Proc) (s : St) (n : Node) (g : IgSt) (work : List Tok) :
    (igReady cfg p s n g work).2.causes = [] → s.causes = [] := igReady_back cfg p s n g work

theorem mono_igRelease (p : Proc) (s : St) (n : Node) (g : IgSt) :
    (igRelease p s n g).2.causes = s.causes := igRelease_causes p s n g

theorem mono_arrive (cfg : Cfg) (p : Proc) (s : St) (t : Tok) :
    (arrive cfg p s t).2.causes = [] → s.causes = [] := arrive_back cfg p s t

theorem mono_settleIncl (cfg : Cfg) (p : Proc) (s : St) (work : List Tok) :
    (settleIncl cfg p s work).2.causes = [] → s.causes = [] := by
  rw [← settleIncl_tie]; exact fun h => (settleInclW_unlogged (igReady_back cfg) (fun _ _ _ _ _ _ => rfl) p s work h).1

theorem mono_settle (cfg : Cfg) (p : Proc) (s : St) :
    (settle cfg p s).2.causes = [] → s.causes = [] := by
  rw [← settle_tie]; exact fun h => (settleW_unlogged (igReady_back cfg) (fun _ _ _ _ _ _ => rfl) cfg p s h).1

theorem mono_runWork (cfg : Cfg) (h1 : cfg.eagerSettle = false) (p : Proc) (fuel : Nat) (toks : List Tok) (s : St) :
    (runWork cfg p fuel toks s).causes = [] → s.causes = [] := by
  rw [← runWork_tie]
  exact fun h => (runWorkW_unlogged (igReady_back cfg) (fun _ _ _ _ _ _ => rfl) cfg p h1 fuel toks s h).1

theorem mono_answer (cfg : Cfg) (h1 : cfg.eagerSettle = false) (p : Proc) (s : St) (node : String) (occ : Nat)
    (a : Answer) : (answer cfg p s node occ a).causes = [] → s.causes = [] := by
  rw [← answer_tie]
  exact fun h => (answerW_unlogged (igReady_back cfg) (fun _ _ _ _ _ _ => rfl) cfg p h1 s node occ a h).1

theorem conf_selectFlows (cfg : Cfg) (p : Proc) (s : St) (t : Tok) (fls : List String) (u : Bool) :
    (selectFlows cfg p s t fls u).2.2.causes = [] →
    selectFlows cfg p s t fls u = selectFlows Cfg.ideal p s t fls u := selectFlows_conf cfg p s t fls u

theorem conf_arrive (cfg : Cfg) (h1 : cfg.eagerSettle = false) (p : Proc) (s : St) (t : Tok) :
    (arrive cfg p s t).2.causes = [] → arrive cfg p s t = arrive Cfg.ideal p s t := arrive_conf cfg h1 p s t

/-- the join policy of a code configuration respects the interval the property allows -/
theorem joinOf_admissible (cfg : Cfg) : (TokenGame.joinOf cfg).Admissible := Lemmas.Engine.joinOf_admissible cfg

/-- a join decision that logs nothing is the decision of the (admissible) policy `joinOf cfg`, state untouched -/
theorem conf_igReady (cfg : Cfg) (h2 : cfg.lateJoin = false) (p : Proc) (s : St) (n : Node) (g : IgSt)
    (work : List Tok) :
    (igReady cfg p s n g work).2.causes = [] →
    igReady cfg p s n g work = ((TokenGame.joinOf cfg) p s n g work, s) := igReady_conf cfg h2 p s n g work

theorem conf_igReady_ideal (cfg : Cfg) (h2 : cfg.lateJoin = false) (h3 : cfg.inclCohort = false) (p : Proc) (s : St)
    (n : Node) (g : IgSt) (work : List Tok) : igReady cfg p s n g work = igReady Cfg.ideal p s n g work := by
  unfold igReady
  simp [h2, h3, Cfg.ideal]

/-- **per decision**: a join decision that logs nothing is the earliest or the latest allowed one -/
theorem conf_igReady_either (cfg : Cfg) (h2 : cfg.lateJoin = false) (p : Proc) (s : St) (n : Node) (g : IgSt)
    (work : List Tok) :
    (igReady cfg p s n g work).2.causes = [] →
    igReady cfg p s n g work = igReady Cfg.ideal p s n g work ∨
    igReady cfg p s n g work = igReady Cfg.idealLate p s n g work := by
  intro h
  rw [igReady_conf cfg h2 p s n g work h, igReady_ideal, igReady_idealLate]
  have hadm := Lemmas.Engine.joinOf_admissible cfg p s n g work
  unfold TokenGame.Join.ready TokenGame.Join.early TokenGame.Join.late
  cases hg : g.activated with
  | none =>
    rw [hg] at hadm
    left; simp only [hadm]
  | some a =>
    rw [hg] at hadm
    simp only at hadm ⊢
    revert hadm
    generalize TokenGame.joinOf cfg p s n g work = j
    generalize lateAt s n a g.arrived work = l
    generalize TokenGame.earlyAt p s n g work = e
    cases j <;> cases l <;> cases e <;> simp

/-- **a pure fork has no join clause**: at a gateway with at most one incoming flow the late bound is vacuous
(`Engine.lateAt`), the interval collapses, and a decision that logs nothing is the decision of `Cfg.ideal` — a code
configuration that lets such a gateway wait logs `inclusive_cohort` -/
theorem conf_igReady_fork_only (cfg : Cfg) (h2 : cfg.lateJoin = false) (p : Proc) (s : St) (n : Node) (g : IgSt)
    (work : List Tok) (hin : n.ins.length ≤ 1) :
    (igReady cfg p s n g work).2.causes = [] →
    igReady cfg p s n g work = igReady Cfg.ideal p s n g work := by
  intro h
  have hlate : igReady Cfg.idealLate p s n g work = igReady Cfg.ideal p s n g work := by
    unfold igReady lateAt
    cases g.activated <;> simp [Cfg.ideal, Cfg.idealLate, hin]
  rcases conf_igReady_either cfg h2 p s n g work h with h' | h'
  · exact h'
  · rw [h', hlate]

theorem conf_settleIncl (cfg : Cfg) (h2 : cfg.lateJoin = false) (p : Proc) (s : St) (work : List Tok) :
    (settleIncl cfg p s work).2.causes = [] →
    settleIncl cfg p s work = TokenGame.settleInclW (TokenGame.joinOf cfg).ready p s work := by
  rw [← settleIncl_tie]
  exact fun h => (settleInclW_unlogged (igReady_back cfg) (igReady_conf cfg h2) p s work h).2

theorem conf_settle (cfg : Cfg) (h2 : cfg.lateJoin = false) (p : Proc) (s : St) :
    (settle cfg p s).2.causes = [] →
    settle cfg p s = TokenGame.settleW (TokenGame.joinOf cfg).ready Cfg.ideal p s := by
  rw [← settle_tie]
  exact fun h => (settleW_unlogged (igReady_back cfg) (igReady_conf cfg h2) cfg p s h).2

theorem conf_runWork (cfg : Cfg) (h1 : cfg.eagerSettle = false) (h2 : cfg.lateJoin = false) (p : Proc) (fuel : Nat)
    (toks : List Tok) (s : St) :
    (runWork cfg p fuel toks s).causes = [] →
    runWork cfg p fuel toks s = TokenGame.runWorkW (TokenGame.joinOf cfg).ready Cfg.ideal p fuel toks s := by
  rw [← runWork_tie]
  exact fun h => (runWorkW_unlogged (igReady_back cfg) (igReady_conf cfg h2) cfg p h1 fuel toks s h).2

theorem joinOf_ready_ideal (cfg : Cfg) (h3 : cfg.inclCohort = false) :
    (TokenGame.joinOf cfg).ready = igReady Cfg.ideal := by
  rw [igReady_ideal]; simp [TokenGame.joinOf, h3]

theorem conf_settleIncl_ideal (cfg : Cfg) (h2 : cfg.lateJoin = false) (h3 : cfg.inclCohort = false) (p : Proc)
    (s : St) (work : List Tok) :
    (settleIncl cfg p s work).2.causes = [] → settleIncl cfg p s work = settleIncl Cfg.ideal p s work := by
  intro h
  rw [conf_settleIncl cfg h2 p s work h, joinOf_ready_ideal cfg h3, settleIncl_tie]

theorem conf_settle_ideal (cfg : Cfg) (h2 : cfg.lateJoin = false) (h3 : cfg.inclCohort = false) (p : Proc) (s : St) :
    (settle cfg p s).2.causes = [] → settle cfg p s = settle Cfg.ideal p s := by
  intro h
  rw [conf_settle cfg h2 p s h, joinOf_ready_ideal cfg h3, settle_tie]

theorem conf_runWork_ideal (cfg : Cfg) (h1 : cfg.eagerSettle = false) (h2 : cfg.lateJoin = false)
    (h3 : cfg.inclCohort = false) (p : Proc) (fuel : Nat) (toks : List Tok) (s : St) :
    (runWork cfg p fuel toks s).causes = [] → runWork cfg p fuel toks s = runWork Cfg.ideal p fuel toks s := by
  intro h
  rw [conf_runWork cfg h1 h2 p fuel toks s h, joinOf_ready_ideal cfg h3, runWork_tie]

/-- the token game under the earliest / latest policy is the engine at `Cfg.ideal` / `Cfg.idealLate` -/
theorem tokenGame_early_start (p : Proc) (vars : Vars) : TokenGame.start .early p vars = start Cfg.ideal p vars := by
  unfold TokenGame.start; rw [← igReady_ideal, start_tie]

theorem tokenGame_early_answer (p : Proc) (s : St) (node : String) (occ : Nat) (a : Answer) :
    TokenGame.answer .early p s node occ a = answer Cfg.ideal p s node occ a := by
  unfold TokenGame.answer; rw [← igReady_ideal, answer_tie]

/-- `Cfg.idealLate` differs from `Cfg.ideal` in `lateJoin` only, and `lateJoin` is read by `igReady` only -/
theorem tokenGame_late_start (p : Proc) (vars : Vars) :
    TokenGame.start .late p vars = start Cfg.idealLate p vars := by
  unfold TokenGame.start
  rw [← igReady_idealLate, ← start_tie Cfg.idealLate]
  exact (runWorkW_joinSwitches _ Cfg.ideal false true p _ _ _).symm

theorem tokenGame_late_answer (p : Proc) (s : St) (node : String) (occ : Nat) (a : Answer) :
    TokenGame.answer .late p s node occ a = answer Cfg.idealLate p s node occ a := by
  unfold TokenGame.answer
  rw [← igReady_idealLate, ← answer_tie Cfg.idealLate]
  exact answerW_congr (fun _ _ _ => (runWorkW_joinSwitches _ Cfg.ideal false true p _ _ _).symm)
    (fun _ _ _ _ => (answerPrep_idealLate p _ _ _ _).symm) ..

/-- **Start.** A start of the code configuration that logs no cause is the start of the token game under the
admissible join policy `joinOf cfg`. -/
theorem conformance_start (cfg : Cfg) (h1 : cfg.eagerSettle = false) (h2 : cfg.lateJoin = false) (p : Proc)
    (vars : Vars) :
    (start cfg p vars).causes = [] → start cfg p vars = TokenGame.start (TokenGame.joinOf cfg) p vars := by
  rw [← start_tie]
  exact fun h => (runWorkW_unlogged (igReady_back cfg) (igReady_conf cfg h2) cfg p h1 _ _ _ h).2

/-- **Answer**, from ANY state. -/
theorem conformance_answer (cfg : Cfg) (h1 : cfg.eagerSettle = false) (h2 : cfg.lateJoin = false) (p : Proc) (s : St)
    (node : String) (occ : Nat) (a : Answer) :
    (answer cfg p s node occ a).causes = [] →
    answer cfg p s node occ a = TokenGame.answer (TokenGame.joinOf cfg) p s node occ a := by
  rw [← answer_tie]
  exact fun h => (answerW_unlogged (igReady_back cfg) (igReady_conf cfg h2) cfg p h1 s node occ a h).2

/-- **Whole runs.** If the run of the code configuration ends with an empty log, it is — state by state — the run
of the token game under `joinOf cfg`. -/
theorem conformance_runOps (cfg : Cfg) (h1 : cfg.eagerSettle = false) (h2 : cfg.lateJoin = false) (p : Proc)
    (vars : Vars) (ops : List (String × Nat × Answer)) :
    (runOps cfg p vars ops).causes = [] →
    runOps cfg p vars ops = TokenGame.runOps (TokenGame.joinOf cfg) p vars ops := by
  unfold runOps TokenGame.runOps
  intro h
  obtain ⟨h0, hr⟩ := foldl_reflect (fun s : St => s.causes = []) _ _ (fun s (x : String × Nat × Answer) hx =>
    ⟨mono_answer cfg h1 p s x.1 x.2.1 x.2.2 hx, conformance_answer cfg h1 h2 p s x.1 x.2.1 x.2.2 hx⟩) ops _ h
  rw [hr, conformance_start cfg h1 h2 p vars h0]

theorem joinOf_ideal (cfg : Cfg) (h3 : cfg.inclCohort = false) : TokenGame.joinOf cfg = .early := by
  simp [TokenGame.joinOf, h3]

theorem conformance_start_ideal (cfg : Cfg) (h1 : cfg.eagerSettle = false) (h2 : cfg.lateJoin = false)
    (h3 : cfg.inclCohort = false) (p : Proc) (vars : Vars) :
    (start cfg p vars).causes = [] → start cfg p vars = start Cfg.ideal p vars := by
  intro h
  rw [conformance_start cfg h1 h2 p vars h, joinOf_ideal cfg h3, tokenGame_early_start]

theorem conformance_answer_ideal (cfg : Cfg) (h1 : cfg.eagerSettle = false) (h2 : cfg.lateJoin = false)
    (h3 : cfg.inclCohort = false) (p : Proc) (s : St) (node : String) (occ : Nat) (a : Answer) :
    (answer cfg p s node occ a).causes = [] → answer cfg p s node occ a = answer Cfg.ideal p s node occ a := by
  intro h
  rw [conformance_answer cfg h1 h2 p s node occ a h, joinOf_ideal cfg h3, tokenGame_early_answer]

theorem tokenGame_early_runOps (p : Proc) (vars : Vars) (ops : List (String × Nat × Answer)) :
    TokenGame.runOps .early p vars ops = runOps Cfg.ideal p vars ops :=
  foldl_answers_congr (tokenGame_early_answer p) (tokenGame_early_start p vars) ops

theorem tokenGame_late_runOps (p : Proc) (vars : Vars) (ops : List (String × Nat × Answer)) :
    TokenGame.runOps .late p vars ops = runOps Cfg.idealLate p vars ops :=
  foldl_answers_congr (tokenGame_late_answer p) (tokenGame_late_start p vars) ops

theorem conformance_runOps_ideal (cfg : Cfg) (h1 : cfg.eagerSettle = false) (h2 : cfg.lateJoin = false)
    (h3 : cfg.inclCohort = false) (p : Proc) (vars : Vars) (ops : List (String × Nat × Answer)) :
    (runOps cfg p vars ops).causes = [] → runOps cfg p vars ops = runOps Cfg.ideal p vars ops := by
  intro h
  rw [conformance_runOps cfg h1 h2 p vars ops h, joinOf_ideal cfg h3, tokenGame_early_runOps]

/-- the refinement as first conjectured: against the single deterministic token game `Cfg.ideal` -/
def C01Conformance_statement (cfg : Cfg) : Prop :=
  ∀ (p : Proc) (vars : Vars) (ops : List (String × Nat × Answer)),
    (runOps cfg p vars ops).causes = [] → runOps cfg p vars ops = runOps Cfg.ideal p vars ops

/-- it holds for every code configuration without the cohort switch … -/
theorem C01Conformance_partial (cfg : Cfg) (h1 : cfg.eagerSettle = false) (h2 : cfg.lateJoin = false)
    (h3 : cfg.inclCohort = false) : C01Conformance_statement cfg :=
  fun p vars ops => conformance_runOps_ideal cfg h1 h2 h3 p vars ops

/-- … and what holds for EVERY code configuration: a cause-free run is a run of the token game under an
admissible join policy -/
def C01Conformance_statement_policy (cfg : Cfg) : Prop :=
  ∃ J : TokenGame.Join, J.Admissible ∧
    ∀ (p : Proc) (vars : Vars) (ops : List (String × Nat × Answer)),
      (runOps cfg p vars ops).causes = [] → runOps cfg p vars ops = TokenGame.runOps J p vars ops

theorem C01Conformance_holds (cfg : Cfg) (h1 : cfg.eagerSettle = false) (h2 : cfg.lateJoin = false) :
    C01Conformance_statement_policy cfg :=
  ⟨TokenGame.joinOf cfg, joinOf_admissible cfg, fun p vars ops => conformance_runOps cfg h1 h2 p vars ops⟩

/-- s → F(inclusive fork) → {J, B → e2, J on a false condition}; J(inclusive join, two incoming flows) → C →
F2(inclusive fork) → {T, J2};
T(activity with two outgoing flows) → {J2, U → e3}; J2(inclusive join) → D → e.
At `J` the sibling token waits at `B` and cannot reach `J` (it is in the cohort: the code waits, `late`);
at `J2` the token at `U` was forked by the activity `T`, is not in the cohort and cannot reach `J2` (the code
releases, `early`). -/
def mixProc : Proc :=
  { nodes := [
      { id := "s", kind := .start, ins := [], outs := ["f0"] },
      { id := "F", kind := .incl, ins := ["f0"], outs := ["fa", "fb", "fx"] },
      { id := "B", kind := .task, ins := ["fb"], outs := ["fb2"] },
      { id := "e2", kind := .end_, ins := ["fb2"], outs := [] },
      { id := "J", kind := .incl, ins := ["fa", "fx"], outs := ["fj"] },
      { id := "C", kind := .task, ins := ["fj"], outs := ["fc"] },
      { id := "F2", kind := .incl, ins := ["fc"], outs := ["g1", "g2"] },
      { id := "T", kind := .task, ins := ["g1"], outs := ["t1", "t2"] },
      { id := "U", kind := .task, ins := ["t2"], outs := ["u1"] },
      { id := "e3", kind := .end_, ins := ["u1"], outs := [] },
      { id := "J2", kind := .incl, ins := ["t1", "g2"], outs := ["fj2"] },
      { id := "D", kind := .task, ins := ["fj2"], outs := ["fd"] },
      { id := "e", kind := .end_, ins := ["fd"], outs := [] }],
    flows := [
      { id := "f0", src := "s", dst := "F", cond := .none }, { id := "fa", src := "F", dst := "J", cond := .none },
      { id := "fb", src := "F", dst := "B", cond := .none }, { id := "fb2", src := "B", dst := "e2", cond := .none },
      { id := "fj", src := "J", dst := "C", cond := .none }, { id := "fc", src := "C", dst := "F2", cond := .none },
      { id := "g1", src := "F2", dst := "T", cond := .none }, { id := "g2", src := "F2", dst := "J2", cond := .none },
      { id := "t1", src := "T", dst := "J2", cond := .none }, { id := "t2", src := "T", dst := "U", cond := .none },
      { id := "u1", src := "U", dst := "e3", cond := .none }, { id := "fj2", src := "J2", dst := "D", cond := .none },
      { id := "fd", src := "D", dst := "e", cond := .none }, { id := "fx", src := "F", dst := "J", cond := .ff }] }

def mixOps : List (String × Nat × Answer) := [("B", 1, .ok []), ("C", 1, .ok []), ("T", 1, .ok [])]

/-- the code as it is today, seen from the model: only the cohort switch on -/
def cohortCfg : Cfg := { Cfg.ideal with inclCohort := true }

/-- **Finding.** With the cohort switch on, the very first step of `mixProc` logs no cause and differs from the
token game `Cfg.ideal`: the join `J` waits for the token at `B` (`Cfg.ideal` requests `C` at once). -/
theorem C01Conformance_counterexample : ¬ C01Conformance_statement cohortCfg := by
  intro h
  have h0 := h mixProc [] [] (by decide)
  have : (runOps cohortCfg mixProc [] []).obs = (runOps Cfg.ideal mixProc [] []).obs := by rw [h0]
  revert this
  decide

/-- **Finding.** The whole run logs no cause, follows `Cfg.idealLate` at `J` and `Cfg.ideal` at `J2`, and is the run
of neither: it leaves `Cfg.ideal` at the start and `Cfg.idealLate` after the third answer. -/
theorem mixed_run_is_neither_ideal_variant :
    (runOps cohortCfg mixProc [] mixOps).causes = [] ∧
    (runOps cohortCfg mixProc [] []).obs = [.req "B"] ∧
    (runOps Cfg.ideal mixProc [] []).obs = [.req "B", .req "C"] ∧
    (runOps Cfg.idealLate mixProc [] []).obs = [.req "B"] ∧
    (runOps cohortCfg mixProc [] mixOps).obs = [.req "U", .complete "J2", .req "D"] ∧
    (runOps Cfg.ideal mixProc [] mixOps).obs = [.req "U", .complete "J2", .req "D"] ∧
    (runOps Cfg.idealLate mixProc [] mixOps).obs = [.req "U"] := by
  decide +kernel

/-- … and yet it is a run of the token game: of the one under the admissible policy `joinOf cohortCfg` -/
theorem mixed_run_is_a_token_game_run :
    runOps cohortCfg mixProc [] mixOps = TokenGame.runOps (TokenGame.joinOf cohortCfg) mixProc [] mixOps :=
  conformance_runOps cohortCfg rfl rfl mixProc [] mixOps mixed_run_is_neither_ideal_variant.1

/-- start → A → sub U( us → B → ue ) → C → e -/
def subProc : Proc :=
  { nodes := [
      { id := "s", kind := .start, ins := [], outs := ["f0"] },
      { id := "A", kind := .task, ins := ["f0"], outs := ["f1"] },
      { id := "U", kind := .sub, ins := ["f1"], outs := ["f2"] },
      { id := "us", kind := .start, ins := [], outs := ["g0"], parent := "U" },
      { id := "B", kind := .task, ins := ["g0"], outs := ["g1"], parent := "U" },
      { id := "ue", kind := .end_, ins := ["g1"], outs := [], parent := "U" },
      { id := "C", kind := .task, ins := ["f2"], outs := ["f3"] },
      { id := "e", kind := .end_, ins := ["f3"], outs := [] }],
    flows := [
      { id := "f0", src := "s", dst := "A", cond := .none }, { id := "f1", src := "A", dst := "U", cond := .none },
      { id := "f2", src := "U", dst := "C", cond := .none }, { id := "f3", src := "C", dst := "e", cond := .none },
      { id := "g0", src := "us", dst := "B", cond := .none }, { id := "g1", src := "B", dst := "ue", cond := .none }] }

/-- From a state in which the inner start event `us` is still marked activated while the completion monitor of `U`
has not fired, the sticky-start configuration skips the content of `U` (no request for `B`, `C` requested at once)
where the token game requests `B`; `Engine.enterSub` logs the step, as `conformance_answer` (from ANY state) needs. -/
theorem sticky_start_is_logged :
    let cfg : Cfg := { Cfg.ideal with subStartSticky := true }
    let s0 : St := { (start cfg subProc []) with activated := ["us", "s"] }
    (answer cfg subProc s0 "A" 1 (.ok [])).causes = ["sub_reentry"] ∧
    (answer cfg subProc s0 "A" 1 (.ok [])).obs = [.complete "us", .req "C"] ∧
    (answer Cfg.ideal subProc s0 "A" 1 (.ok [])).obs = [.req "B"] := by
  decide +kernel

/-! ### non-vacuity: the hypotheses are satisfiable with every deviation switch on -/

def allOn : Cfg := ⟨true, true, true, true, false, false, true⟩
def noCohort : Cfg := ⟨true, true, false, true, false, false, true⟩

example : allOn.eagerSettle = false ∧ allOn.lateJoin = false := ⟨rfl, rfl⟩
example : (start allOn mixProc []).causes = [] := by decide +kernel
example : (answer allOn mixProc (start allOn mixProc []) "B" 1 (.ok [])).causes = [] := by decide +kernel
example : (runOps allOn mixProc [] mixOps).causes = [] := by decide +kernel
example : (runOps allOn subProc [] [("A", 1, .ok [])]).causes = [] := by decide +kernel
example : noCohort.inclCohort = false ∧ (runOps noCohort mixProc [] mixOps).causes = [] := by decide +kernel
example : (selectFlows allOn mixProc { vars := [] } { fid := 1, node := "s" } ["f0"] false).2.2.causes = [] := by
  decide
example : (arrive allOn mixProc { vars := [] } { fid := 1, node := "s" }).2.causes = [] := by decide
example : (arrive allOn subProc { vars := [] } { fid := 1, node := "U" }).2.causes = [] := by decide
example : (igReady allOn mixProc { vars := [] } { id := "J", kind := .incl, ins := ["fa", "fx"], outs := ["fj"] }
    { gw := "J", activated := some 1, arrived := [1] } []).2.causes = [] := by decide
example : (settleIncl allOn mixProc { vars := [] } []).2.causes = [] := by decide
example : (settle allOn mixProc { vars := [] }).2.causes = [] := by decide
example : (runWork allOn mixProc 50 [{ fid := 1, node := "s" }] { vars := [] }).causes = [] := by decide +kernel

end Bpmn.Props.C01Conformance
