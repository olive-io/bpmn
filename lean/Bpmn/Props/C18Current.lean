import Bpmn.Props.C18
import Bpmn.Gen.C18
/-! C18 instantiated at the facts extracted from the current /repo tree (`Bpmn.Gen.C18`, regenerated on every run).
Every fact-dependent theorem is a dichotomy that type-checks whichever way the fact points: a repair of /repo turns
the witness side into the positive side without any alarm. If the extractor cannot read a fact (`none`), `current`
does not elaborate and this module fails to build. -/
namespace Bpmn.Props.C18
open Bpmn.Model.ProcessSet

def cfgOf (a b c d e : Option Bool) : Option Cfg := do
  let a ← a; let b ← b; let c ← c; let d ← d; let e ← e
  pure { subBeforeStart := a, instSubBeforeStart := b, closeOnce := c, addBeforeStart := d, instAddBeforeStart := e }

def current : Cfg :=
  (cfgOf Bpmn.Gen.C18.watcherSubscribesBeforeStart Bpmn.Gen.C18.instWatcherSubscribesBeforeStart
    Bpmn.Gen.C18.doneClosedOnce Bpmn.Gen.C18.wgAddBeforeStart Bpmn.Gen.C18.instWgAddBeforeStart).get (by decide)

/-- completion is reported when it is true, however quickly the members finish — or the fast member is missed -/
theorem current_live :
    if current.subBeforeStart = true ∧ current.instSubBeforeStart = true then
      ∀ (su : Setup) (s : State), Reach current su s → Quiescent current su s → s.panicked = false →
        (∀ m ∈ s.members, m.ceased = true) → ∀ w, WaitOpen s w → WaitTrue s w
    else
      (current.subBeforeStart = false ∧
        Quiescent current oneTrivial (exec current oneTrivial schedFastMissed) ∧
        (∀ m ∈ (exec current oneTrivial schedFastMissed).members, m.ceased = true) ∧
        WaitOpen (exec current oneTrivial schedFastMissed) 0 ∧ ¬ WaitTrue (exec current oneTrivial schedFastMissed) 0)
      ∨ (current.instSubBeforeStart = false ∧
        Quiescent current throwAndWaiting (exec current throwAndWaiting schedFastInstanceMissed) ∧
        (∀ m ∈ (exec current throwAndWaiting schedFastInstanceMissed).members, m.ceased = true) ∧
        WaitOpen (exec current throwAndWaiting schedFastInstanceMissed) 0 ∧
        ¬ WaitTrue (exec current throwAndWaiting schedFastInstanceMissed) 0) := by
  split
  · next h => exact fun su s hr hq hp hall w hw => set_complete_live current su h.1 h.2 s hr hq hp hall w hw
  · next h =>
    by_cases h1 : current.subBeforeStart = true
    · have h2 : current.instSubBeforeStart = false := by
        cases hb : current.instSubBeforeStart with
        | false => rfl
        | true => exact absurd ⟨h1, hb⟩ h
      obtain ⟨a, _, c, _, d, e⟩ := C18_counterexample_fast_instance_missed current h2
      exact Or.inr ⟨h2, a, c, d, e⟩
    · have h1' : current.subBeforeStart = false := by simpa using h1
      obtain ⟨a, _, c, _, d, e⟩ := C18_counterexample_fast_process_missed current h1'
      exact Or.inl ⟨h1', a, c, d, e⟩

/-- repeated and concurrent waits never panic — or the second call closes the closed channel -/
theorem current_reentrant :
    if current.closeOnce = true then ∀ (su : Setup) (sch : List Choice), (exec current su sch).panicked = false
    else (exec current oneTrivial schedDoubleWait).panicked = true ∧
         (exec current oneTrivial schedConcurrentWait).panicked = true := by
  split
  · next h => exact fun su sch => set_wait_reentrant current su h sch
  · next h =>
    have h' : current.closeOnce = false := by simpa using h
    exact ⟨C18_counterexample_double_close current h', C18_counterexample_double_close_concurrent current h'⟩

/-- C18 (with its two structural restrictions, see `C18_core`) on the current facts — or one of the witnesses -/
theorem current_verdict :
    if current.subBeforeStart = true ∧ current.instSubBeforeStart = true ∧ current.closeOnce = true then C18_core current
    else ¬ C18_core current := by
  split
  · next h => exact C18_partial current h.1 h.2.1 h.2.2
  · next h =>
    intro hc
    by_cases h3 : current.closeOnce = true
    · by_cases h1 : current.subBeforeStart = true
      · have h2 : current.instSubBeforeStart = false := by
          cases hb : current.instSubBeforeStart with
          | false => rfl
          | true => exact absurd ⟨h1, hb, h3⟩ h
        obtain ⟨q, _, c, _, d, e⟩ := C18_counterexample_fast_instance_missed current h2
        exact e ((hc throwAndWaiting _ (reach_exec (cfg := current) schedFastInstanceMissed)).2.1 q c 0 d)
      · obtain ⟨q, _, c, _, d, e⟩ := C18_counterexample_fast_process_missed current (by simpa using h1)
        exact e ((hc oneTrivial _ (reach_exec (cfg := current) schedFastMissed)).2.1 q c 0 d)
    · have := (hc oneTrivial _ (reach_exec (cfg := current) schedDoubleWait)).2.2.1
      rw [C18_counterexample_double_close current (by simpa using h3)] at this
      cases this

/-- the full statement (`C18_statement`) is false on the current facts, as on all others -/
theorem current_full_statement_refuted : ¬ C18_statement current := C18_not_holds current

/-- the model registers a watcher with the wait group and spawns it in one step: `wg.Add(1)` precedes the `go` -/
theorem current_add_before_spawn : Bpmn.Gen.C18.wgAddBeforeSpawn = some true := by decide

/-- the model takes a watcher's send to `ps.mch` as not blocking while `run` is alive: the capacity
`mchCapPerExecutable * len(executes) + mchCapExtra` is at least 1 for every number (≥ 1) of executable processes (the two
values themselves are not constrained); `ps.done` exists (its capacity is irrelevant: it is only ever closed) -/
theorem current_channels :
    1 ≤ (Bpmn.Gen.C18.mchCapPerExecutable.getD 0) + (Bpmn.Gen.C18.mchCapExtra.getD 0) ∧
    Bpmn.Gen.C18.mchCapPerExecutable.isSome = true ∧ Bpmn.Gen.C18.mchCapExtra.isSome = true ∧
    Bpmn.Gen.C18.doneCap.isSome = true := by decide

end Bpmn.Props.C18
