import Bpmn.Gen.C03
import Bpmn.Props.C03
/-!
# C03 — the kernel IS the source: `distributeFlows` translated from gateway.go on every run

`Gen/C03.replyGen` is not written by hand: the extractor translates the loop body of gateway.go `distributeFlows` statement
by statement (assignments, the conditional re-assignment of `rangeEnd`, the nested `if`s, the two kinds of `action <- …`).
The obligations below say that this translation is, for EVERY number of waiting tokens, EVERY number of outgoing flows and
EVERY loop index, the hand-written kernel `Gateway.reply` that `Props/C03` reasons about — so `distribute_partition`,
`distribute_completions`, `pg_run` … are theorems about what the source says today. An edit of `distributeFlows` either
keeps the equation (a harmless rewrite the translator understands), breaks it (the obligation fails, the differential harness
looks for the failing N × M), or leaves the translator's fragment (`replyGen = none`, the obligation fails as well).
-/
namespace Bpmn.Props.C03Current
open Bpmn.Model.Gateway

theorem translated : Bpmn.Gen.C03.replyGen.isSome = true ∧ Bpmn.Gen.C03.uncondGen.isSome = true := by decide

/-- **the source's loop body is the kernel**, for all a, s, i -/
theorem reply_is_source : ∀ (f : Nat → Nat → Nat → Reply), Bpmn.Gen.C03.replyGen = some f → ∀ a s i, f a s i = reply a s i := by
  intro f hf a s i
  unfold Bpmn.Gen.C03.replyGen at hf
  injection hf with hf
  subst hf
  -- semantic, not syntactic: any way of writing the same case analysis over linear conditions is accepted
  unfold reply
  simp only [decide_eq_true_eq, beq_iff_eq, ge_iff_le]
  all_goals grind

/-- every flow a token is handed is marked unconditional: the count of unconditional indices is the length of the slice
(the engine model lets the released tokens leave over their flows without evaluating conditions) -/
theorem all_handed_flows_unconditional : ∀ (f : Nat → Nat → Nat → Reply) (g : Nat → Nat → Nat → Option Nat),
    Bpmn.Gen.C03.replyGen = some f → Bpmn.Gen.C03.uncondGen = some g →
    ∀ a s i, (∀ lo hi, f a s i = .flows lo hi → g a s i = some (hi - lo)) ∧ (f a s i = .complete → g a s i = none) := by
  intro f g hf hg a s i
  unfold Bpmn.Gen.C03.replyGen at hf
  unfold Bpmn.Gen.C03.uncondGen at hg
  injection hf with hf
  injection hg with hg
  subst hf hg
  simp only [decide_eq_true_eq, beq_iff_eq, ge_iff_le]
  constructor
  · intro lo hi
    grind
  · grind

/-- non-vacuity and a reading aid: three waiting tokens, two outgoing flows — the first two get one flow each, the third
is consumed -/
example : (Bpmn.Gen.C03.replyGen.map (fun f => [f 3 2 0, f 3 2 1, f 3 2 2])) =
    some [.flows 0 1, .flows 1 2, .complete] := by decide

end Bpmn.Props.C03Current
