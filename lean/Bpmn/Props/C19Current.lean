import Bpmn.Props.C19
import Bpmn.Gen.C19
/-! C19 instantiated at the facts extracted from the current /repo tree. -/
namespace Bpmn.Props.C19
open Bpmn.Model.Builder Bpmn.Lemmas.Builder Bpmn.Lemmas.BuilderLayout

/-- the model's node sizes are the ones `flowNodeDefaultSize` returns -/
theorem current_sizes :
    Bpmn.Gen.C19.sizeStartEvent = some Kind.startEvent.size ∧
    Bpmn.Gen.C19.sizeEndEvent = some Kind.endEvent.size ∧
    Bpmn.Gen.C19.sizeSubProcess = some Kind.subProcess.size ∧
    Bpmn.Gen.C19.sizeAdHocSubProcess = some Kind.adHocSubProcess.size ∧
    Bpmn.Gen.C19.sizeTransaction = some Kind.transaction.size ∧
    Bpmn.Gen.C19.sizeDefault = some Kind.task.size ∧
    Bpmn.Gen.C19.maxNodeWidth = some maxW ∧ Bpmn.Gen.C19.maxNodeHeight = some maxH ∧
    Bpmn.Gen.C19.minProcessHeight = some 160 := by decide

/-- the documented default configuration, in units of 1/8 -/
def currentDefaultCfg : Option Cfg := do
  let sx ← Bpmn.Gen.C19.defaultStartX
  let sy ← Bpmn.Gen.C19.defaultStartY
  let cg ← Bpmn.Gen.C19.defaultColumnGap
  let rg ← Bpmn.Gen.C19.defaultRowGap
  let pg ← Bpmn.Gen.C19.defaultProcessGap
  pure ⟨(sx * 8 : Nat), (sy * 8 : Nat), (cg * 8 : Nat), (rg * 8 : Nat), (pg * 8 : Nat), 8⟩

/-- the documented default gaps are at least the node sizes -/
theorem current_defaults_cover_sizes : currentDefaultCfg.map (fun c => decide (GapsCover c)) = some true := by decide

/-- hence: at the documented defaults no two shapes overlap, for every list of processes with unique node ids
and closed flows (in particular everything the builders produce from stored activity types) -/
theorem current_default_layout_no_overlap (o : Nat → Nat) (procs : List Proc) (n : Nat)
    (hnd : (nodeIds procs).Nodup) (hcl : ∀ p ∈ procs, flowsClosed p) :
    ∀ c, currentDefaultCfg = some c → (layoutAll o c n c.sy procs).1.Pairwise (fun s t => disjoint s t = true) := by
  intro c hc
  have h := current_defaults_cover_sizes
  rw [hc] at h
  simp only [Option.map_some, Option.some.injEq, decide_eq_true_eq] at h
  exact layout_no_overlap o c h procs n c.sy hnd hcl

/-- every kind `AddActivity` can be handed -/
def activityKinds : List Kind :=
  [.task, .businessRuleTask, .userTask, .callActivity, .manualTask, .sendTask, .scriptTask,
   .serviceTask, .receiveTask, .subProcess, .adHocSubProcess, .transaction, .activity]

theorem activityKinds_complete (k : Kind) : isActivity k ↔ k ∈ activityKinds := by
  unfold isActivity; cases k <;> decide

/-- the type switch of `AddActivity` as extracted from the current tree (`none`: the switch was not found) -/
def currentStored : Option (Kind → Bool) := Bpmn.Gen.C19.addActivityStored.map storedBy

/-- does the extracted switch store every activity type? Either answer type-checks (only a switch that cannot
be found does not): the finding `activity_not_stored` disappears by itself once the switch is complete. -/
theorem current_stored_dichotomy :
    currentStored.map (fun st => activityKinds.all st) = some true ∨
    currentStored.map (fun st => activityKinds.all st) = some false := by
  obtain ⟨st, h⟩ : ∃ st, currentStored = some st := ⟨_, rfl⟩
  rw [h]
  cases hall : activityKinds.all st
  · exact .inr (congrArg some hall)
  · exact .inl (congrArg some hall)

/-- C19 for the types the extracted switch stores, and the two sides of the dichotomy at the extracted switch -/
theorem current_C19 : ∀ st, currentStored = some st →
    C19_statement_stored st ∧
    (activityKinds.all st = true → C19_statement st) ∧
    (∀ k ∈ activityKinds, st k = false → ¬ C19_statement st) := by
  intro st _
  refine ⟨C19_holds_partial st, ?_, ?_⟩
  · intro hall
    apply C19_general
    intro k hk
    exact List.all_eq_true.mp hall k ((activityKinds_complete k).mp hk)
  · intro k hk hst
    exact C19_counterexample_activity_not_stored st k ((activityKinds_complete k).mpr hk) hst

/-- where the ids come from: `RandBytes` either builds a clock-seeded source on every call (the oracle is then a
function of the clock reading and NOT injective — D14, as the code was before repair 136374e) or it does not; the
construct was found -/
theorem current_id_source_found :
    Bpmn.Gen.C19.randBytesReseedsPerCall = some true ∨ Bpmn.Gen.C19.randBytesReseedsPerCall = some false := by decide

end Bpmn.Props.C19
