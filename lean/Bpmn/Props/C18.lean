import Bpmn.Lemmas.ProcessSet
/-!
# C18 — Process set runs all executable processes and reports completion exactly once

Model: `Bpmn.Model.ProcessSet` (port of `process_set.go`: `StartAll`, the per-member
watcher `tracerProcess`, `WaitUntilComplete` with its closing goroutine, the `run` loop, the catch registry).
Every statement is for every set (any number of executable and waiting processes, any trace streams, any message
flows) and every schedule (`List Choice` of any length, or equivalently every `Reach`able state); `cfg` are the
facts of the source (`Bpmn.Gen.C18`, regenerated on every run).
-/
namespace Bpmn.Props.C18
open Bpmn.Model.ProcessSet

/-- `WaitUntilComplete` call `w` has returned `true` -/
def WaitTrue (s : State) (w : Nat) : Prop := (s.waits[w]?).bind (·.result) = some true

/-- call `w` was made and its context has not expired -/
def WaitOpen (s : State) (w : Nat) : Prop := (s.waits[w]?).isSome = true ∧ (s.waits[w]?).bind (·.result) ≠ some false

instance (s : State) (w : Nat) : Decidable (WaitTrue s w) := by unfold WaitTrue; infer_instance
instance (s : State) (w : Nat) : Decidable (WaitOpen s w) := by unfold WaitOpen; infer_instance

theorem waitTrue_iff {s : State} {w : Nat} : WaitTrue s w ↔ ∃ wt, s.waits[w]? = some wt ∧ wt.result = some true := by
  unfold WaitTrue
  cases s.waits[w]? <;> simp

theorem waitOpen_iff {s : State} {w : Nat} : WaitOpen s w ↔ ∃ wt, s.waits[w]? = some wt ∧ wt.result ≠ some false := by
  unfold WaitOpen
  cases s.waits[w]? <;> simp

/-- A wait returns `true` only after `done` was closed, and `done` is closed only when every member registered
with the wait group so far has emitted its cease-flow trace. Members registered later (`lateJoin`) or not yet
registered (`counted = false`) are those the theorem does not cover — see
`C18_counterexample_complete_before_instantiated`. -/
theorem set_complete_sound (cfg : Cfg) (su : Setup) (s : State) (hr : Reach cfg su s) (w : Nat) (hw : WaitTrue s w) :
    ∀ m ∈ s.members, m.counted = true → m.lateJoin = false → m.ceased = true := by
  obtain ⟨wt, hwt, hres⟩ := waitTrue_iff.mp hw
  have hc := waits_need_close s hr wt (List.mem_of_getElem? hwt) (Or.inl hres)
  intro m hm h1 h2
  exact (memberOK_inv s hr m hm).fin_ceased (closed_members_finished s hr hc m hm h1 h2)

/-- When no call is made before `StartAll` has returned: a wait returns `true` only when `StartAll` has started every
executable process of the set (in order, each with its own stream) and every one of them has completed. -/
theorem set_complete_sound_exec (cfg : Cfg) (su : Setup) (s : State) (hr : Reach cfg su s) (he : s.earlyWait = false)
    (w : Nat) (hw : WaitTrue s w) :
    s.toStart = [] ∧ startedStreams s = su.execs ∧ ∀ m ∈ s.members, m.origin = none → m.ceased = true := by
  obtain ⟨wt, hwt, hres⟩ := waitTrue_iff.mp hw
  have hc := waits_need_close s hr wt (List.mem_of_getElem? hwt) (Or.inl hres)
  have early := early_inv s hr
  have pend := pending_inv s hr
  obtain ⟨hts, hsa⟩ := early.through he (early.called hc)
  have hst := started_streams s hr
  rw [hts, List.append_nil] at hst
  refine ⟨hts, hst, ?_⟩
  intro m hm ho
  obtain ⟨j, hj⟩ := List.mem_iff_getElem?.mp hm
  -- `StartAll` is through, and `run` registers only members it has instantiated
  have hcnt : m.counted = true := by
    cases hcn : m.counted
    · rcases pend.unc j m hj hcn with h | h
      · rw [hsa] at h; cases h
      · obtain ⟨m', hm', _, ho'⟩ := pend.run j h
        rw [hj] at hm'; cases hm'; rw [ho] at ho'; cases ho'
    · rfl
  have hlj : m.lateJoin = false := Bool.eq_false_iff.mpr fun hl => by simpa [ho, he] using early.late m hm hl
  exact set_complete_sound cfg su s hr w hw m hm hcnt hlj

/-- `StartAll` starts the executable processes in order; what a member has emitted followed by what it has still to
emit is, at every moment and under every schedule, the stream of its own process — of the executable process for a
member started by `StartAll`, of the waiting process the message flow points to for an instantiated one: the set adds
nothing to and removes nothing from the behaviour of a member (it only decides when a catch event is woken). -/
theorem member_behaves_alone (cfg : Cfg) (su : Setup) (s : State) (hr : Reach cfg su s) :
    startedStreams s ++ s.toStart = su.execs ∧
    ∀ m ∈ s.members, ∀ id, m.origin = some id →
      ∃ w, su.target id = some (.start w) ∧ su.waitings[w]? = some m.whole :=
  ⟨started_streams s hr, instance_streams s hr⟩

/-- Safety, for all facts and schedules: the members instantiated for throw event `id` are exactly the instantiations
`run` performed, and instantiations + wake-ups + messages handled without effect never exceed the throws emitted —
no throw is delivered twice. -/
theorem message_flow_once (cfg : Cfg) (su : Setup) (s : State) (hr : Reach cfg su s) (id : Nat) :
    s.instances id = s.instantiated.count id ∧
    s.instantiated.count id + s.woken.count id + s.dropped.count id ≤ s.thrown.count id := by
  refine ⟨instances_eq s hr id, ?_⟩
  have := msg_account s hr id
  omega

/-- Liveness, under the subscription facts and while `run` is in its loop: when nothing can move any more, every throw
emitted so far has been handled — exactly one instantiation, wake-up or (no flow / catch event not listening) drop
per throw. -/
theorem message_flow_live (cfg : Cfg) (su : Setup) (h1 : cfg.subBeforeStart = true) (h2 : cfg.instSubBeforeStart = true)
    (s : State) (hr : Reach cfg su s) (hq : Quiescent cfg su s) (hp : s.panicked = false) (ha : s.runAlive = true)
    (id : Nat) : s.instantiated.count id + s.woken.count id + s.dropped.count id = s.thrown.count id := by
  have qt := quiet_of_quiescent hq hp
  have hheld : ∀ m ∈ s.members, heldThrows id m = 0 := by
    intro m hm
    obtain ⟨hsub, hmiss⟩ := subscribed_from_start h1 h2 s hr m hm
    simp [heldThrows, queue_empty_of_quiet hr qt hm hsub, hmiss]
  have := msg_account s hr id
  rw [qt.mch ha, (total_eq_zero_iff _ _).2 hheld] at this
  simpa using this

/-- With the watcher's subscription established before the member process is started: once every started member
has completed and no goroutine of the set can move any more, every call whose context has not expired has
returned `true` — however quickly the members finished. -/
theorem set_complete_live (cfg : Cfg) (su : Setup) (h1 : cfg.subBeforeStart = true) (h2 : cfg.instSubBeforeStart = true)
    (s : State) (hr : Reach cfg su s) (hq : Quiescent cfg su s) (hp : s.panicked = false)
    (hall : ∀ m ∈ s.members, m.ceased = true) (w : Nat) (hw : WaitOpen s w) : WaitTrue s w := by
  have hk := wakers_done_of_all_ceased s hr hall
  obtain ⟨wt, hwt, hres⟩ := waitOpen_iff.mp hw
  have qt := quiet_of_quiescent hq hp
  -- every watcher has finished
  have hfin : ∀ m ∈ s.members, wPending m = 0 := by
    intro m hm
    obtain ⟨hsub, hmiss⟩ := subscribed_from_start h1 h2 s hr m hm
    -- the cease-flow trace was neither missed nor is it still in the channel
    have hf : m.finished = true := by
      simpa [hmiss, queue_empty_of_quiet hr qt hm hsub] using (memberOK_inv s hr m hm).tracked (hall m hm)
    simp [wPending, hf]
  have hwg : s.wg = 0 := by
    rw [wg_inv s hr, (total_eq_zero_iff _ _).2 hfin,
      (total_eq_zero_iff _ _).2 (fun wk h => by simp [kPending, hk wk h])]
  -- hence the closer of this call has run, `done` is closed, and the call has returned
  have hc := waits_need_close s hr wt (List.mem_of_getElem? hwt) (Or.inr (qt.closer hwg w wt hwt))
  refine waitTrue_iff.mpr ⟨wt, hwt, ?_⟩
  cases h : wt.result with
  | none => exact absurd h (qt.ret hc w wt hwt)
  | some b =>
    cases b with
    | true => rfl
    | false => exact absurd h hres

/-- With the close of `done` guarded, no schedule — any number of sequential or concurrent calls — panics. -/
theorem set_wait_reentrant (cfg : Cfg) (su : Setup) (h : cfg.closeOnce = true) (sch : List Choice) :
    (exec cfg su sch).panicked = false :=
  guarded_no_panic h _ (reach_exec sch)

/-- never more than one; exactly one once `run` has left its loop; and `run` leaves its loop once `done` is closed
and nothing can move any more -/
theorem cease_set_once (cfg : Cfg) (su : Setup) (s : State) (hr : Reach cfg su s) :
    s.ceaseSet ≤ 1 ∧ (s.runAlive = false → s.ceaseSet = 1) ∧
    (Quiescent cfg su s → s.panicked = false → 1 ≤ s.closes → s.ceaseSet = 1) := by
  have hc := cease_set_counter s hr
  refine ⟨by split at hc <;> omega, fun h => by simpa [h] using hc, ?_⟩
  intro hq hp hcl
  cases ha : s.runAlive with
  | false => simpa [ha] using hc
  | true => have := (quiet_of_quiescent hq hp).open_ ha; omega

/-! ## witnesses: what the code does when a fact is false

Each is stated for every `cfg` with that one fact false. Enabledness does not depend on `cfg` and a run consults only
the facts of the choices it takes, so `exec_cfg` / `quiescent_cfg` move the run to a `Cfg` that is closed up to the
Booleans the schedule does consult; those are case-split and the rest is computed. -/

/-- the facts of the source as first extracted: subscription after the start (both sites), unguarded close
(those of the present tree: `C18Current.current`) -/
def Cfg.found : Cfg :=
  { subBeforeStart := false, instSubBeforeStart := false, closeOnce := false, addBeforeStart := false, instAddBeforeStart := false }

/-- one executable process `start → end`, nothing else -/
def oneTrivial : Setup := { execs := [[]], waitings := [], flows := [] }

/-- an executable process `start → throw → end`, a waiting process `start → end`, a message flow between them -/
def throwAndWaiting : Setup := { execs := [[.throw 7]], waitings := [[]], flows := [(7, .start 0)] }

/-- the process is started, finishes, and only then its watcher subscribes; a caller waits -/
def schedFastMissed : List Choice := [.saStart, .saRegister, .proc 0, .subscribe 0, .waitCall]

/-- Without the subscription before the start: the only process has completed, nothing can move, the call is open —
and it has not returned `true`, nor will it (only its context can expire). -/
theorem C18_counterexample_fast_process_missed (cfg : Cfg) (h : cfg.subBeforeStart = false) :
    Quiescent cfg oneTrivial (exec cfg oneTrivial schedFastMissed) ∧
    (exec cfg oneTrivial schedFastMissed).panicked = false ∧
    (∀ m ∈ (exec cfg oneTrivial schedFastMissed).members, m.ceased = true) ∧
    (∀ wk ∈ (exec cfg oneTrivial schedFastMissed).wakers, wk.done = true) ∧
    WaitOpen (exec cfg oneTrivial schedFastMissed) 0 ∧ ¬ WaitTrue (exec cfg oneTrivial schedFastMissed) 0 := by
  -- no message is taken and nobody closes: of the facts, the run consults only those of `StartAll`
  rw [exec_cfg (cfg' := { Cfg.found with addBeforeStart := cfg.addBeforeStart }) _ _ ⟨h, rfl⟩ (.inl (by decide))
    (.inl (by decide))]
  refine ⟨quiescent_cfg Cfg.found (quiescent_of_check ?_), ?_, ?_, ?_, ?_, ?_⟩ <;> cases cfg.addBeforeStart <;> decide

/-- the executable process throws; `run` instantiates the waiting process, which finishes before its watcher subscribes -/
def schedFastInstanceMissed : List Choice :=
  [.saStart, .saRegister, .subscribe 0, .proc 0, .watcher 0, .runMsg, .runRegister, .proc 1, .subscribe 1,
   .proc 0, .watcher 0, .waitCall]

/-- The same window in `run`: a process instantiated for a message flow that finishes before its watcher subscribes. -/
theorem C18_counterexample_fast_instance_missed (cfg : Cfg) (h : cfg.instSubBeforeStart = false) :
    Quiescent cfg throwAndWaiting (exec cfg throwAndWaiting schedFastInstanceMissed) ∧
    (exec cfg throwAndWaiting schedFastInstanceMissed).panicked = false ∧
    (∀ m ∈ (exec cfg throwAndWaiting schedFastInstanceMissed).members, m.ceased = true) ∧
    (∀ wk ∈ (exec cfg throwAndWaiting schedFastInstanceMissed).wakers, wk.done = true) ∧
    WaitOpen (exec cfg throwAndWaiting schedFastInstanceMissed) 0 ∧
    ¬ WaitTrue (exec cfg throwAndWaiting schedFastInstanceMissed) 0 := by
  -- nobody closes: the guard of the close is not consulted
  rw [exec_cfg (cfg := cfg) (cfg' := { cfg with instSubBeforeStart := false, closeOnce := false }) _ _ ⟨rfl, rfl⟩ (.inr ⟨h, rfl⟩)
    (.inl (by decide))]
  refine ⟨quiescent_cfg Cfg.found (quiescent_of_check ?_), ?_, ?_, ?_, ?_, ?_⟩ <;>
    cases cfg.subBeforeStart <;> cases cfg.addBeforeStart <;> cases cfg.instAddBeforeStart <;> decide

/-- the process completes and is seen, a first call returns `true`, a second call is made -/
def schedDoubleWait : List Choice :=
  [.saStart, .saRegister, .subscribe 0, .proc 0, .watcher 0, .waitCall, .closer 0, .waitReturn 0, .waitCall, .closer 1]

/-- Without the guard: the second sequential call closes the closed channel. -/
theorem C18_counterexample_double_close (cfg : Cfg) (h : cfg.closeOnce = false) :
    (exec cfg oneTrivial schedDoubleWait).panicked = true := by
  -- no message is taken: the facts of `run` are not consulted
  rw [exec_cfg (cfg := cfg) (cfg' := { cfg with instSubBeforeStart := false, instAddBeforeStart := false, closeOnce := false }) _ _
    ⟨rfl, rfl⟩ (.inl (by decide)) (.inr h)]
  cases cfg.subBeforeStart <;> cases cfg.addBeforeStart <;> decide

/-- two concurrent calls made before the process completes -/
def schedConcurrentWait : List Choice :=
  [.saStart, .saRegister, .subscribe 0, .waitCall, .waitCall, .proc 0, .watcher 0, .closer 0, .closer 1]

theorem C18_counterexample_double_close_concurrent (cfg : Cfg) (h : cfg.closeOnce = false) :
    (exec cfg oneTrivial schedConcurrentWait).panicked = true := by
  rw [exec_cfg (cfg := cfg) (cfg' := { cfg with instSubBeforeStart := false, instAddBeforeStart := false, closeOnce := false }) _ _
    ⟨rfl, rfl⟩ (.inl (by decide)) (.inr h)]
  cases cfg.subBeforeStart <;> cases cfg.addBeforeStart <;> decide

/-- the throwing process completes and its watcher has passed the message on; the call returns `true`; only then does
`run` instantiate the waiting process -/
def schedCompleteBeforeInstantiated : List Choice :=
  [.saStart, .saRegister, .subscribe 0, .proc 0, .watcher 0, .proc 0, .watcher 0, .waitCall, .closer 0, .waitReturn 0,
   .runMsg, .runRegister]

/-- Whatever the facts: the wait group does not cover a message on its way, so the set is reported complete while
the process a message flow instantiates has not even started (and `run` may as well take its `done` branch first
and never instantiate it: `C18_counterexample_message_lost_at_completion`). -/
theorem C18_counterexample_complete_before_instantiated (cfg : Cfg) :
    WaitTrue (exec cfg throwAndWaiting schedCompleteBeforeInstantiated) 0 ∧
    (exec cfg throwAndWaiting schedCompleteBeforeInstantiated).panicked = false ∧
    (exec cfg throwAndWaiting schedCompleteBeforeInstantiated).members.any
      (fun m => m.origin == some 7 && !m.ceased && m.lateJoin) = true := by
  obtain ⟨a, b, c, d, e⟩ := cfg
  cases a <;> cases b <;> cases c <;> cases d <;> cases e <;> decide

/-- as before, but `run` takes the `<-ps.done` branch while the message is still in `mch` -/
def schedMessageLost : List Choice :=
  [.saStart, .saRegister, .subscribe 0, .proc 0, .watcher 0, .proc 0, .watcher 0, .waitCall, .closer 0, .waitReturn 0,
   .runDone]

theorem C18_counterexample_message_lost_at_completion (cfg : Cfg) :
    Quiescent cfg throwAndWaiting (exec cfg throwAndWaiting schedMessageLost) ∧
    (exec cfg throwAndWaiting schedMessageLost).thrown = [7] ∧ (exec cfg throwAndWaiting schedMessageLost).instantiated = [] ∧
    (exec cfg throwAndWaiting schedMessageLost).instances 7 = 0 ∧ (exec cfg throwAndWaiting schedMessageLost).ceaseSet = 1 := by
  -- no message is taken: the facts of `run` are not consulted
  rw [exec_cfg (cfg := cfg) (cfg' := { cfg with instSubBeforeStart := false, instAddBeforeStart := false }) _ _
    ⟨rfl, rfl⟩ (.inl (by decide)) (.inr rfl)]
  refine ⟨quiescent_cfg Cfg.found (quiescent_of_check ?_), ?_, ?_, ?_, ?_⟩ <;>
    cases cfg.subBeforeStart <;> cases cfg.closeOnce <;> cases cfg.addBeforeStart <;> decide

/-- The full statement of C18 on the model, for the facts `cfg`: for every set and every reachable state
(1) a wait that returned `true` means every member started so far has completed; (2) when all members have completed
and nothing can move, every open wait has returned `true`; (3) no panic, whatever the number and timing of the waits;
(4) at most one cease-process-set trace, and exactly one once `done` is closed and nothing can move; (5) no throw is
delivered twice, and when nothing can move every throw has been handled; (6) the executable processes are started in
order and every member emits the stream of its own process. -/
def C18_statement (cfg : Cfg) : Prop :=
  ∀ (su : Setup) (s : State), Reach cfg su s →
    (∀ w, WaitTrue s w → ∀ m ∈ s.members, m.ceased = true) ∧
    (Quiescent cfg su s → (∀ m ∈ s.members, m.ceased = true) → ∀ w, WaitOpen s w → WaitTrue s w) ∧
    s.panicked = false ∧
    (s.ceaseSet ≤ 1 ∧ (Quiescent cfg su s → 1 ≤ s.closes → s.ceaseSet = 1)) ∧
    (∀ id, s.instances id = s.instantiated.count id ∧
       s.instantiated.count id + s.woken.count id + s.dropped.count id ≤ s.thrown.count id ∧
       (Quiescent cfg su s → s.instantiated.count id + s.woken.count id + s.dropped.count id = s.thrown.count id)) ∧
    (startedStreams s ++ s.toStart = su.execs ∧
       ∀ m ∈ s.members, ∀ id, m.origin = some id → ∃ w, su.target id = some (.start w) ∧ su.waitings[w]? = some m.whole)

/-- What is proved: the statement with clause (1) restricted to the members registered with the wait group before
`done` was closed (and, when no call precedes the return of `StartAll`, to all executable processes), and the
"every throw has been handled" half of clause (5) restricted to states in which `run` is still in its loop. The
restrictions exclude exactly `C18_counterexample_complete_before_instantiated` and
`C18_counterexample_message_lost_at_completion`. -/
def C18_core (cfg : Cfg) : Prop :=
  ∀ (su : Setup) (s : State), Reach cfg su s →
    (∀ w, WaitTrue s w →
      (∀ m ∈ s.members, m.counted = true → m.lateJoin = false → m.ceased = true) ∧
      (s.earlyWait = false → s.toStart = [] ∧ ∀ m ∈ s.members, m.origin = none → m.ceased = true)) ∧
    (Quiescent cfg su s → (∀ m ∈ s.members, m.ceased = true) → ∀ w, WaitOpen s w → WaitTrue s w) ∧
    s.panicked = false ∧
    (s.ceaseSet ≤ 1 ∧ (Quiescent cfg su s → 1 ≤ s.closes → s.ceaseSet = 1)) ∧
    (∀ id, s.instances id = s.instantiated.count id ∧
       s.instantiated.count id + s.woken.count id + s.dropped.count id ≤ s.thrown.count id ∧
       (Quiescent cfg su s → s.runAlive = true →
          s.instantiated.count id + s.woken.count id + s.dropped.count id = s.thrown.count id)) ∧
    (startedStreams s ++ s.toStart = su.execs ∧
       ∀ m ∈ s.members, ∀ id, m.origin = some id → ∃ w, su.target id = some (.start w) ∧ su.waitings[w]? = some m.whole)

/-- C18 with the two restrictions, for every set and every schedule, under the three facts. -/
theorem C18_partial (cfg : Cfg) (h1 : cfg.subBeforeStart = true) (h2 : cfg.instSubBeforeStart = true)
    (h3 : cfg.closeOnce = true) : C18_core cfg := by
  intro su s hr
  have hp := guarded_no_panic h3 s hr
  refine ⟨?_, ?_, hp, ?_, ?_, member_behaves_alone cfg su s hr⟩
  · intro w hw
    refine ⟨set_complete_sound cfg su s hr w hw, fun he => ?_⟩
    obtain ⟨through, _, ceased⟩ := set_complete_sound_exec cfg su s hr he w hw
    exact ⟨through, ceased⟩
  · intro hq hall w hw
    exact set_complete_live cfg su h1 h2 s hr hq hp hall w hw
  · obtain ⟨a, _, c⟩ := cease_set_once cfg su s hr
    exact ⟨a, fun hq hc => c hq hp hc⟩
  · intro id
    obtain ⟨a, b⟩ := message_flow_once cfg su s hr id
    exact ⟨a, b, fun hq ha => message_flow_live cfg su h1 h2 s hr hq hp ha id⟩

/-- The full statement is false for every value of the facts: the wait group covers neither a message in `ps.mch` nor
an instantiation in progress. -/
theorem C18_not_holds (cfg : Cfg) : ¬ C18_statement cfg := by
  intro h
  obtain ⟨h1, _⟩ := h throwAndWaiting _ (reach_exec (cfg := cfg) schedCompleteBeforeInstantiated)
  obtain ⟨hw, _, hm⟩ := C18_counterexample_complete_before_instantiated cfg
  rw [List.any_eq_true] at hm
  obtain ⟨m, hmem, hprop⟩ := hm
  have := h1 0 hw m hmem
  simp [this] at hprop

/-! ## non-vacuity: the hypotheses of the theorems above are met by concrete non-trivial runs (tests, not the claim) -/

/-- repaired facts, one process: it completes, two calls, both return `true`, one cease-process-set trace, quiescent -/
def schedHappy : List Choice :=
  [.saStart, .proc 0, .watcher 0, .waitCall, .closer 0, .waitReturn 0, .runDone, .waitCall, .closer 1, .waitReturn 1]

example : Quiescent Cfg.repaired oneTrivial (exec Cfg.repaired oneTrivial schedHappy) := quiescent_of_check (by decide)
example : (∀ m ∈ (exec Cfg.repaired oneTrivial schedHappy).members, m.ceased = true) ∧
    WaitOpen (exec Cfg.repaired oneTrivial schedHappy) 0 ∧ WaitTrue (exec Cfg.repaired oneTrivial schedHappy) 1 ∧
    (exec Cfg.repaired oneTrivial schedHappy).panicked = false ∧ (exec Cfg.repaired oneTrivial schedHappy).ceaseSet = 1 ∧
    (exec Cfg.repaired oneTrivial schedHappy).earlyWait = false ∧
    (exec Cfg.repaired oneTrivial schedHappy).members.all (fun m => m.counted && !m.lateJoin) = true := by decide

/-- repaired facts, throw → waiting process: the message is delivered while `run` is in its loop; quiescent -/
def schedDelivered : List Choice :=
  [.saStart, .proc 0, .watcher 0, .runMsg, .proc 0, .watcher 0, .proc 1, .watcher 1]

example : Quiescent Cfg.repaired throwAndWaiting (exec Cfg.repaired throwAndWaiting schedDelivered) :=
  quiescent_of_check (by decide)
example : (exec Cfg.repaired throwAndWaiting schedDelivered).runAlive = true ∧
    (exec Cfg.repaired throwAndWaiting schedDelivered).thrown = [7] ∧
    (exec Cfg.repaired throwAndWaiting schedDelivered).instantiated = [7] ∧
    (exec Cfg.repaired throwAndWaiting schedDelivered).instances 7 = 1 ∧
    (exec Cfg.repaired throwAndWaiting schedDelivered).allCeased = true := by decide

/-- a catch event woken through a message flow: process 0 throws 3, process 1 listens at catch event 5 -/
def throwAndCatch : Setup := { execs := [[.throw 3], [.listen 5, .tau]], waitings := [], flows := [(3, .catch_ 5)] }
def schedWoken : List Choice :=
  [.saStart, .saStart, .proc 1, .watcher 1, .proc 0, .watcher 0, .runMsg, .waker 0, .proc 1, .watcher 1, .proc 1, .watcher 1,
   .proc 0, .watcher 0, .waitCall, .closer 0, .waitReturn 0, .runDone]

example : Quiescent Cfg.repaired throwAndCatch (exec Cfg.repaired throwAndCatch schedWoken) := quiescent_of_check (by decide)
example : (exec Cfg.repaired throwAndCatch schedWoken).woken = [3] ∧ (exec Cfg.repaired throwAndCatch schedWoken).allCeased = true ∧
    WaitTrue (exec Cfg.repaired throwAndCatch schedWoken) 0 ∧ (exec Cfg.repaired throwAndCatch schedWoken).wg = 0 := by decide

end Bpmn.Props.C18
