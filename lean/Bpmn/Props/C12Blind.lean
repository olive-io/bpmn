import Bpmn.Model.Engine
import Bpmn.Spec.TokenGame
/-!
# C12 — what happens AT a node does not depend on the scope the node lies in

"Its inner activities are requested as they would be inline": the transition of the engine model at a node that is not
itself a sub-process node — an activity, a gateway, an event — is literally the same function of the state whatever the
`parent` attributes of the program say. `reparent f p` rewrites every node's scope by an arbitrary function; `arrive` at
any non-sub-process node, `selectFlows`, the evaluation of conditions and the reply of an answered task before the work
list runs are all invariant under it, for every configuration. Scopes matter in exactly two places: entering a sub-process
node (which inner start events) and `settle` (which scope is empty) — the step contract of `Props/C12Steps`.
-/
namespace Bpmn.Props.C12Blind
open Bpmn.Model Bpmn.Model.Engine

def reparent (f : Node → String) (p : Proc) : Proc :=
  { p with nodes := p.nodes.map (fun n => { n with parent := f n }) }

theorem node?_reparent (f : Node → String) (p : Proc) (id : String) :
    (reparent f p).node? id = (p.node? id).map (fun n => { n with parent := f n }) := by
  unfold Proc.node? reparent
  simp only [List.find?_map]
  rfl

theorem flow?_reparent (f : Node → String) (p : Proc) (fl : String) : (reparent f p).flow? fl = p.flow? fl := rfl

theorem flowDst_reparent (f : Node → String) (p : Proc) (fl : String) : flowDst (reparent f p) fl = flowDst p fl := rfl

theorem evalFlow_reparent (f : Node → String) (p : Proc) (s : St) (fl : String) (u : Bool) :
    evalFlow (reparent f p) s fl u = evalFlow p s fl u := rfl

theorem evalFlows_reparent (f : Node → String) (p : Proc) (s : St) (fls : List String) (u : Bool) :
    evalFlows (reparent f p) s fls u = evalFlows p s fls u := rfl

theorem forkToks_reparent (f : Node → String) (p : Proc) (s : St) (fls : List String) :
    forkToks (reparent f p) s fls = forkToks p s fls := rfl

theorem recordFlow_reparent (f : Node → String) (p : Proc) (s : St) (src : String) (fids : List Nat) :
    s.recordFlow (reparent f p) src fids = s.recordFlow p src fids := by
  unfold St.recordFlow
  rw [node?_reparent]
  cases p.node? src <;> rfl

theorem selectFlows_reparent (cfg : Cfg) (f : Node → String) (p : Proc) (s : St) (t : Tok) (fls : List String) (u : Bool) :
    selectFlows cfg (reparent f p) s t fls u = selectFlows cfg p s t fls u := by
  unfold selectFlows
  simp only [evalFlows_reparent, forkToks_reparent, recordFlow_reparent, flowDst_reparent]

/-- **Scope-blindness of a node's transition.** At a node that is not a sub-process node, `arrive` is the same function of
the state in `p` and in `p` with every scope rewritten — for every configuration, state and token. -/
theorem arrive_reparent (cfg : Cfg) (f : Node → String) (p : Proc) (s : St) (t : Tok)
    (hk : ∀ n, p.node? t.node = some n → n.kind ≠ .sub) :
    arrive cfg (reparent f p) s t = arrive cfg p s t := by
  unfold arrive
  rw [node?_reparent]
  cases hn : p.node? t.node with
  | none => rfl
  | some n =>
    have hk' := hk n hn
    simp only [Option.map_some]
    cases hkind : n.kind <;> simp only [evalFlows_reparent, selectFlows_reparent]
    exact absurd hkind hk'

theorem applyDeclared_reparent (f : Node → String) (n : Node) (vars : Vars) (results : List (String × Int)) :
    applyDeclared { n with parent := f n } vars results = applyDeclared n vars results := rfl

/-- … and so is what an answer does before the work list runs (`answerPrep`: which token continues, where, with which
data): an answered task inside a sub-process is handled exactly like the same task at top level. -/
theorem answerPrep_reparent (cfg : Cfg) (f : Node → String) (p : Proc) (s : St) (node : String) (occ : Nat) (a : Answer) :
    Bpmn.Spec.TokenGame.answerPrep cfg (reparent f p) s node occ a = Bpmn.Spec.TokenGame.answerPrep cfg p s node occ a := by
  unfold Bpmn.Spec.TokenGame.answerPrep
  rw [node?_reparent]
  cases hn : p.node? node with
  | none => simp only [Option.map_none, selectFlows_reparent]
  | some n =>
    simp only [Option.map_some, selectFlows_reparent]
    cases List.find? (fun q => q.fst.node == node && q.snd == occ) s.pending with
    | none => rfl
    | some q => obtain ⟨t, k⟩ := q; rfl

/-- non-vacuity: flattening the scopes of a program with sub-processes changes the program -/
example : reparent (fun _ => "-") { nodes := [{ id := "B", kind := .task, ins := [], outs := [], parent := "U" }], flows := [] } =
    { nodes := [{ id := "B", kind := .task, ins := [], outs := [], parent := "-" }], flows := [] } := rfl

end Bpmn.Props.C12Blind
