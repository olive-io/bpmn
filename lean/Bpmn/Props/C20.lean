import Bpmn.Lemmas.IdGen
/-!
# C20 — Generated identifiers never collide

Model: `Bpmn.Model.IdGen` (port of `pkg/id/fallback.go` and of `muyo/sno`'s
`Generator.New` / `Snapshot` / restore as `pkg/id/sno.go` uses them, one step per atomic operation).

Every statement is for schedules of any length (any number of threads, draws, clock ticks, overflow-ticker
firings, snapshot/restore points). Three facts about the code are parameters of the statement:

* `ser` — is `SnoGenerator.New` serialised by a mutex. With `ser = true` ids are pairwise distinct for every
  schedule (`sno_unique_serialised`). With `ser = false` — the code before repair 5994157 — the faithful model hands out the
  same id twice (`C20_counterexample_stale_time`, `C20_counterexample_reset_window`).
* `fbAtomic` — is the fallback counter incremented by one atomic fetch-and-add (it is).
* `fbSerial` — does `NewFallbackGenerator` mix a per-program serial number (package-level atomic counter) into the
  prefix. With it, the generators of a program have distinct prefixes whatever the clock says
  (`fallback_unique_program`); with the clock reading alone, two generators created within one reading collide
  (`fallback_counterexample_same_clock`).
-/
namespace Bpmn.Props.C20
open Bpmn.Model.IdGen

/-- One fallback generator, any number of threads, any interleaving of their draws (fewer than 2^64 draws,
the counter is a `uint64`): ids pairwise distinct, and all carry the generator's prefix. -/
theorem fallback_unique (p : FbPrefix) (sched : List Nat) (h : sched.length < u64) :
    (fbRun true (fbNew p) sched).out.Nodup ∧ ∀ x ∈ (fbRun true (fbNew p) sched).out, x.pfx = p := by
  have := fbInv_run p sched (fbNew p) (fbInv_new p) ((Nat.zero_add _).symm ▸ h)
  exact ⟨this.nodup, fun x hx => (this.bound x hx).1⟩

/-- Several fallback generators with pairwise distinct prefixes (creation-time clock reading and serial number), each drawn
from under any interleaving (generators share no state, so a global interleaving is a schedule per generator). -/
theorem fallback_unique_across (gs : List (FbPrefix × List Nat))
    (hp : gs.Pairwise (fun a b => a.1 ≠ b.1)) (hl : ∀ a ∈ gs, a.2.length < u64) :
    (gs.flatMap (fun a => (fbRun true (fbNew a.1) a.2).out)).Nodup :=
  nodup_flatMap_of_tag _ (·.1) (·.pfx) gs (fun a ha => fallback_unique a.1 a.2 (hl a ha)) hp

/-- The distinct-prefix hypothesis is necessary: two fallback generators created within the same clock reading
(`time.Now().UnixNano()` equal) share the prefix and hand out the same ids, starting with the first. -/
theorem fallback_same_prefix_collides (p : FbPrefix) (s1 s2 : List Nat) (h1 : s1 ≠ []) (h2 : s2 ≠ []) :
    ∃ x, x ∈ (fbRun true (fbNew p) s1).out ∧ x ∈ (fbRun true (fbNew p) s2).out :=
  ⟨⟨p, 1⟩, fbRun_first p s1 h1, fbRun_first p s2 h2⟩

/-- With a serial number in the prefix (`fbProgram true`: the package-level atomic counter is mixed in), the
generators of one program have pairwise distinct prefixes WHATEVER the clock readings are — in particular when
several are created within one nanosecond — so no distinct-prefix hypothesis is needed: any number of generators
(fewer than 2^64), any clock readings, any interleaving of draws on each. -/
theorem fallback_unique_program (gs : List (Nat × List Nat)) (hn : gs.length < u64)
    (hl : ∀ a ∈ gs, a.2.length < u64) :
    ((fbProgram true 0 gs).flatMap (fun a => (fbRun true (fbNew a.1) a.2).out)).Nodup := by
  refine fallback_unique_across _ (fbProgram_pairwise gs 0 ((Nat.zero_add _).symm ▸ hn)).1 ?_
  have hl' : ∀ s ∈ gs.map (·.2), s.length < u64 := List.forall_mem_map.2 hl
  rw [← fbProgram_sched true gs 0] at hl'
  exact List.forall_mem_map.1 hl'

/-- With the clock reading alone as prefix, two generators created within one clock reading hand out the same id. -/
theorem fallback_counterexample_same_clock :
    ¬ ((fbProgram false 0 [(5, [0]), (5, [0])]).flatMap (fun a => (fbRun true (fbNew a.1) a.2).out)).Nodup := by
  decide

/-- If the counter were incremented by a plain load and store, two threads could both read 0 and hand out `p-1`. -/
theorem fallback_counterexample_nonatomic : ¬ (fbRun false (fbNew 5) [0, 1, 0, 1]).out.Nodup := by decide

/-- `SnoGenerator.New` under a mutex: for every initial generator state whose `wallHi` is not in the future, every
number of threads and every schedule of their atomic operations, clock ticks, overflow-ticker firings and
snapshot/restore points: (time, sequence) strictly increases lexicographically in draw order. -/
theorem sno_lex_increasing (g0 : Gen) (now0 : Nat) (sched : List Ev) (h : g0.wallHi ≤ now0) :
    (run true (init g0 now0) sched).out.Pairwise (fun newer older => lexLt older newer) :=
  (List.foldlRecOn (motive := Inv g0.part) sched _ (inv_init g0 now0 h)
    fun st hst e _ => inv_step g0.part st e hst).sorted

/-- … hence ids are pairwise distinct: across threads, across ticks, across sequence overflow, and between a
generator's earlier output and the output of the generator restored from its snapshot (`Ev.restore`). -/
theorem sno_unique_serialised (g0 : Gen) (now0 : Nat) (sched : List Ev) (h : g0.wallHi ≤ now0) :
    (run true (init g0 now0) sched).out.Nodup :=
  nodup_of_sorted _ (sno_lex_increasing g0 now0 sched h)

/-- One goroutine drawing from a generator — no mutex needed (`ser = false`): for every schedule in which only
one thread performs operations (with ticks, overflow-ticker firings and snapshot/restore anywhere), (time, sequence)
strictly increases and ids are pairwise distinct. This is the law the driver checks on single-goroutine traces. -/
theorem sno_unique_single_goroutine (g0 : Gen) (now0 : Nat) (sched : List Ev) (h : g0.wallHi ≤ now0)
    (hs : ∀ e ∈ sched, Solo e) :
    (run false (init g0 now0) sched).out.Pairwise (fun newer older => lexLt older newer) ∧
    (run false (init g0 now0) sched).out.Nodup := by
  rw [solo_out g0 now0 sched hs]
  exact ⟨sno_lex_increasing g0 now0 sched h, sno_unique_serialised g0 now0 sched h⟩

/-- Whether or not `New` is serialised, and under every schedule: every id carries its generator's partition, so
two generators with different partitions never hand out the same id. This part of "several generators alive at
once" needs no mutex. -/
theorem sno_partition_any_schedule (ser : Bool) (g0 : Gen) (now0 : Nat) (sched : List Ev) :
    ∀ x ∈ (run ser (init g0 now0) sched).out, x.part = g0.part :=
  (List.foldlRecOn (motive := PartInv g0.part) (b := init g0 now0) sched _ ⟨rfl, nofun⟩
    fun st hst e _ => partInv_step g0.part ser st e hst).2

theorem sno_distinct_generators_disjoint (ser : Bool) (g1 g2 : Gen) (n1 n2 : Nat) (s1 s2 : List Ev)
    (hp : g1.part ≠ g2.part) :
    ∀ x ∈ (run ser (init g1 n1) s1).out, ∀ y ∈ (run ser (init g2 n2) s2).out, x ≠ y := by
  intro x hx y hy e
  subst e
  exact hp ((sno_partition_any_schedule ser g1 n1 s1 x hx).symm.trans (sno_partition_any_schedule ser g2 n2 s2 x hy))

theorem sno_ids_carry_partition (g0 : Gen) (now0 : Nat) (sched : List Ev) :
    ∀ x ∈ (run true (init g0 now0) sched).out, x.part = g0.part :=
  sno_partition_any_schedule true g0 now0 sched

/-- Several generators alive at once with pairwise distinct partitions: no id is handed out twice. -/
theorem sno_unique_across_generators (gs : List (Gen × Nat × List Ev))
    (hp : gs.Pairwise (fun a b => a.1.part ≠ b.1.part)) (hw : ∀ a ∈ gs, a.1.wallHi ≤ a.2.1) :
    (gs.flatMap (fun a => (run true (init a.1 a.2.1) a.2.2).out)).Nodup :=
  nodup_flatMap_of_tag _ (·.1.part) (·.part) gs
    (fun a ha => ⟨sno_unique_serialised a.1 a.2.1 a.2.2 (hw a ha), sno_ids_carry_partition a.1 a.2.1 a.2.2⟩) hp

/-- `genPartition` gives the first 65536 generators of a program pairwise distinct partitions. -/
theorem genPartition_injective (seed n m : Nat) (hn : n < 65536) (hm : m < 65536) (h : n ≠ m) :
    genPartition seed n ≠ genPartition seed m := by
  unfold genPartition
  omega

def rep (n : Nat) (e : Ev) : List Ev := List.replicate n e

/-- Thread 0 draws (1,0) and (1,1). Thread 1 loads `wallHi = 1` and reads the clock (1), then is delayed. The clock
ticks. Thread 0 draws again: time progressed, it resets the sequence and gets (2,0). Thread 1 resumes: its
increment returns 1, which it stamps with the time it read — (1,1) again. -/
def staleTimeSchedule : List Ev :=
  rep 6 (.thr 0) ++ rep 5 (.thr 0) ++ rep 3 (.thr 1) ++ [.tick] ++ rep 6 (.thr 0) ++ rep 2 (.thr 1)

theorem C20_counterexample_stale_time :
    ¬ (run false (init (freshGen 7) 1) staleTimeSchedule).out.Nodup := by decide

/-- what the schedule produces, newest first -/
example : (run false (init (freshGen 7) 1) staleTimeSchedule).out =
    [⟨1, 0, 7, 1⟩, ⟨2, 0, 7, 0⟩, ⟨1, 0, 7, 1⟩, ⟨1, 0, 7, 0⟩] := by decide

/-- Thread 0 draws (1,0); the clock ticks; thread 0 wins the CAS on `wallHi` (1 → 2) but has not yet stored the
reset sequence. Thread 1 sees `wallHi = 2 = now`, increments the OLD sequence (0) and gets (2,1). Thread 0 stores
0, gets (2,0), and its next draw hands out (2,1) again. (With an old sequence of n the duplicate is (2,n+1), which is
what the stress runs show: duplicates with arbitrary sequence numbers.) -/
def resetWindowSchedule : List Ev :=
  rep 6 (.thr 0) ++ [.tick] ++ rep 4 (.thr 0) ++ rep 5 (.thr 1) ++ rep 2 (.thr 0) ++ rep 5 (.thr 0)

theorem C20_counterexample_reset_window :
    ¬ (run false (init (freshGen 7) 1) resetWindowSchedule).out.Nodup := by decide +kernel

example : (run false (init (freshGen 7) 1) resetWindowSchedule).out =
    [⟨2, 0, 7, 1⟩, ⟨2, 0, 7, 0⟩, ⟨2, 0, 7, 1⟩, ⟨1, 0, 7, 0⟩] := by decide

/-- the same schedules are harmless once `New` is serialised (instance of `sno_unique_serialised`) -/
example : (run true (init (freshGen 7) 1) staleTimeSchedule).out.Nodup :=
  sno_unique_serialised _ _ _ (by decide)

/-- C20 on the model, with three facts about the code as parameters: is `SnoGenerator.New` serialised, is the
fallback counter advanced atomically, does the fallback prefix carry a per-program serial number. -/
def C20_statementFor (ser fbAtomic fbSerial : Bool) : Prop :=
  -- (a) the fallback generator: one generator, concurrent draws
  (∀ (p : FbPrefix) (sched : List Nat), sched.length < u64 → (fbRun fbAtomic (fbNew p) sched).out.Nodup) ∧
  -- (b) the fallback generators one program creates, at arbitrary (possibly equal) clock readings
  (∀ gs : List (Nat × List Nat), gs.length < u64 → (∀ a ∈ gs, a.2.length < u64) →
      ((fbProgram fbSerial 0 gs).flatMap (fun a => (fbRun fbAtomic (fbNew a.1) a.2).out)).Nodup) ∧
  -- (c) one sno generator: concurrent draws, ticks, overflow, snapshot/restore at arbitrary points between draws
  (∀ (g0 : Gen) (now0 : Nat) (sched : List Ev), g0.wallHi ≤ now0 → (run ser (init g0 now0) sched).out.Nodup) ∧
  -- (d) several sno generators alive at once
  (∀ gs : List (Gen × Nat × List Ev), gs.Pairwise (fun a b => a.1.part ≠ b.1.part) →
      (∀ a ∈ gs, a.1.wallHi ≤ a.2.1) → (gs.flatMap (fun a => (run ser (init a.1 a.2.1) a.2.2).out)).Nodup)

/-- the full statement: ids never collide, whether or not callers of `SnoGenerator.New` are serialised and
whether or not fallback prefixes carry a serial number -/
def C20_statement : Prop := ∀ ser fbSerial : Bool, C20_statementFor ser true fbSerial

/-- The positive theorem: C20 holds on the model when the three facts exclude the witnesses — `New` serialised, fallback
counter atomic, fallback prefix with serial number — for every schedule, every number of threads, draws, generators.
(`C20_general` is the same with the three facts as variables.) -/
theorem C20_partial : C20_statementFor true true true :=
  ⟨fun p s h => (fallback_unique p s h).1, fallback_unique_program,
   sno_unique_serialised, sno_unique_across_generators⟩

theorem C20_general (ser fbAtomic fbSerial : Bool) (h1 : ser = true) (h2 : fbAtomic = true)
    (h3 : fbSerial = true) : C20_statementFor ser fbAtomic fbSerial := by
  subst h1; subst h2; subst h3; exact C20_partial

/-- without the mutex the model violates clause (c), whatever the fallback generator does -/
theorem C20_cex_unserialised (fbAtomic fbSerial : Bool) : ¬ C20_statementFor false fbAtomic fbSerial := by
  intro h
  exact C20_counterexample_stale_time (h.2.2.1 (freshGen 7) 1 staleTimeSchedule (by decide))

/-- with a non-atomic fallback counter the model violates clause (a) -/
theorem C20_cex_nonatomic_counter (ser fbSerial : Bool) : ¬ C20_statementFor ser false fbSerial := by
  intro h
  exact fallback_counterexample_nonatomic (h.1 5 [0, 1, 0, 1] (by decide))

/-- with the clock reading alone as fallback prefix the model violates clause (b) -/
theorem C20_cex_clock_only_prefix (ser : Bool) : ¬ C20_statementFor ser true false := by
  intro h
  exact fallback_counterexample_same_clock (h.2.1 [(5, [0]), (5, [0])] (by decide) (by decide))

/-- the statement holds exactly when all three facts are as required: whatever the extracted facts are, the model
either satisfies C20 or provably violates it -/
theorem C20_decided (ser fbAtomic fbSerial : Bool) :
    C20_statementFor ser fbAtomic fbSerial ↔ (ser = true ∧ fbAtomic = true ∧ fbSerial = true) := by
  constructor
  · intro h
    cases ser
    · exact absurd h (C20_cex_unserialised _ _)
    · cases fbAtomic
      · exact absurd h (C20_cex_nonatomic_counter _ _)
      · cases fbSerial
        · exact absurd h (C20_cex_clock_only_prefix _)
        · exact ⟨rfl, rfl, rfl⟩
  · intro ⟨h1, h2, h3⟩; exact C20_general _ _ _ h1 h2 h3

/-- the full statement is false on the faithful model -/
theorem C20_not_holds : ¬ C20_statement := fun h => C20_cex_unserialised true true (h false true)

/-- the dichotomy the extracted facts select from (see `C20Current.lean`) -/
def SnoClaim : Bool → Prop
  | true => ∀ (g0 : Gen) (now0 : Nat) (sched : List Ev), g0.wallHi ≤ now0 →
      (run true (init g0 now0) sched).out.Nodup
  | false => ∃ sched : List Ev, sched = staleTimeSchedule ∧ ¬ (run false (init (freshGen 7) 1) sched).out.Nodup

theorem sno_dichotomy : ∀ b, SnoClaim b
  | true => sno_unique_serialised
  | false => ⟨_, rfl, C20_counterexample_stale_time⟩

def FallbackClaim : Bool → Prop
  | true => ∀ (p : FbPrefix) (sched : List Nat), sched.length < u64 → (fbRun true (fbNew p) sched).out.Nodup
  | false => ¬ (fbRun false (fbNew 5) [0, 1, 0, 1]).out.Nodup

theorem fallback_dichotomy : ∀ b, FallbackClaim b
  | true => fun p s h => (fallback_unique p s h).1
  | false => fallback_counterexample_nonatomic

/-- fallback prefixes: with a serial number, uniqueness across the generators of a program for arbitrary clock
readings; with the clock reading alone, the same-clock witness -/
def FallbackPrefixClaim : Bool → Prop
  | true => ∀ gs : List (Nat × List Nat), gs.length < u64 → (∀ a ∈ gs, a.2.length < u64) →
      ((fbProgram true 0 gs).flatMap (fun a => (fbRun true (fbNew a.1) a.2).out)).Nodup
  | false => ¬ ((fbProgram false 0 [(5, [0]), (5, [0])]).flatMap (fun a => (fbRun true (fbNew a.1) a.2).out)).Nodup

theorem fallback_prefix_dichotomy : ∀ b, FallbackPrefixClaim b
  | true => fallback_unique_program
  | false => fallback_counterexample_same_clock

/-! Non-vacuity of the implications (tests, not the claim). -/
example : (fbProgram true 0 [(5, [0, 1]), (5, [0])]).map (·.1) = [⟨5, 1⟩, ⟨5, 2⟩] := by decide
example : ((fbProgram true 0 [(5, [0, 1]), (5, [0])]).flatMap (fun a => (fbRun true (fbNew a.1) a.2).out)) =
    [⟨⟨5, 1⟩, 2⟩, ⟨⟨5, 1⟩, 1⟩, ⟨⟨5, 2⟩, 1⟩] := by decide
example : (List.length [0, 1, 2, 1, 0] < u64) := by decide
example : (fbRun true (fbNew 9) [0, 1, 2, 1, 0]).out = [⟨9, 5⟩, ⟨9, 4⟩, ⟨9, 3⟩, ⟨9, 2⟩, ⟨9, 1⟩] := by decide
example : [((3 : FbPrefix), [0, 1]), (4, [0])].Pairwise (fun a b => a.1 ≠ b.1) := by decide
example : (freshGen 7).wallHi ≤ 1 := by decide
example : [(freshGen 1, 1, [Ev.thr 0]), (freshGen 2, 1, [])].Pairwise (fun a b => a.1.part ≠ b.1.part) := by decide
example : genPartition 65530 3 ≠ genPartition 65530 10 := by decide
example : (freshGen 1).part ≠ (freshGen 2).part := by decide
example : ∀ e ∈ [Ev.thr 0, .tick, .thr 0, .restore, .ovfLoop], Solo e := by
  intro e he; simp at he; rcases he with rfl | rfl | rfl | rfl | rfl <;> simp [Solo]
/-- a serialised run in which three threads, a tick and a restore all happen, and ids come out -/
example : (run true (init (freshGen 7) 1)
    (rep 6 (.thr 0) ++ [.thr 1, .thr 2] ++ rep 4 (.thr 1) ++ [.restore, .tick] ++ rep 6 (.thr 2))).out =
    [⟨2, 0, 7, 0⟩, ⟨1, 0, 7, 1⟩, ⟨1, 0, 7, 0⟩] := by decide

end Bpmn.Props.C20
