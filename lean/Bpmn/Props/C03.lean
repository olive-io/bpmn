import Bpmn.Model.Gateway
/-!
# C03 — Parallel gateway waits for all incoming tokens and emits one token per outgoing

Layer 0: `distribute a s` (gateway.go `distributeFlows`), for every number `a ≥ 1` of waiting tokens and
every number `s` of outgoing flows. Layer 1: the gateway actor `PG` (gateway_parallel.go `run` /
`flowWhenReady`) for every N, M, every arrival sequence and any number of activations.
-/
namespace Bpmn.Props.C03
open Bpmn.Model.Gateway

theorem distribute_length (a s : Nat) : (distribute a s).length = a := by
  simp [distribute]

/-- the Go loop body, read off: token `i` is consumed iff there is no `i`-th outgoing flow; otherwise it takes flow `i`,
and the last waiting token takes all the remaining ones as well -/
theorem reply_eq (a s i : Nat) :
    reply a s i = if s ≤ i then .complete else .flows i (if i + 1 = a then s else i + 1) := by
  unfold reply
  by_cases hl : i + 1 = a
  · simp only [hl, beq_self_eq_true, if_true, Nat.le_refl, ge_iff_le]
  · simp only [beq_iff_eq, hl, if_false, ge_iff_le]
    by_cases h : s ≤ i
    · simp only [h, if_true, show ¬ (i + 1 ≤ s) by omega, if_false]
    · simp only [h, if_false, show i + 1 ≤ s by omega, if_true, show ¬ (i + 1 ≤ i) by omega]

theorem reply_indices_inner (a s i : Nat) (hi : i + 1 < a) : (reply a s i).indices = if i < s then [i] else [] := by
  rw [reply_eq, if_neg (by omega : ¬ i + 1 = a)]
  by_cases h : s ≤ i
  · rw [if_pos h, if_neg (by omega)]; rfl
  · rw [if_neg h, if_pos (by omega)]
    simp [Reply.indices]

theorem reply_indices_last (s i : Nat) : (reply (i + 1) s i).indices = (List.range (s - i)).map (· + i) := by
  rw [reply_eq, if_pos rfl]
  by_cases h : s ≤ i
  · rw [if_pos h, show s - i = 0 by omega]; rfl
  · rw [if_neg h]; rfl

theorem prefix_indices (a s : Nat) : ∀ k, k < a →
    ((List.range k).flatMap (fun i => (reply a s i).indices)) = List.range (min k s) := by
  intro k
  induction k with
  | zero => intro _; simp
  | succ k ih =>
    intro hk
    rw [List.range_succ, List.flatMap_append, ih (by omega), List.flatMap_singleton, reply_indices_inner a s k hk]
    by_cases h : k < s
    · rw [if_pos h, show min k s = k by omega, show min (k + 1) s = k + 1 by omega, List.range_succ]
    · rw [if_neg h, show min k s = s by omega, show min (k + 1) s = s by omega, List.append_nil]

/-- Concatenating, in the order of the waiting tokens, the outgoing flows each one is handed gives exactly
`0, 1, …, s-1`: every outgoing flow is placed exactly once, on exactly one token, nothing is duplicated. -/
theorem distribute_partition (a s : Nat) (ha : 1 ≤ a) :
    (distribute a s).flatMap Reply.indices = List.range s := by
  unfold distribute
  rw [List.flatMap_map]
  obtain ⟨k, rfl⟩ : ∃ k, a = k + 1 := ⟨a - 1, by omega⟩
  rw [List.range_succ, List.flatMap_append, prefix_indices (k + 1) s k (by omega), List.flatMap_singleton,
    reply_indices_last]
  by_cases h : k ≤ s
  · -- `0 … k-1` followed by `k … s-1`
    rw [show min k s = k by omega]
    conv => rhs; rw [show s = k + (s - k) by omega, List.range_add]
    simp only [Nat.add_comm]
  · rw [show min k s = s by omega, show s - k = 0 by omega, List.range_zero, List.map_nil, List.append_nil]

/-- the surplus tokens are consumed: exactly `a - s` of the waiting tokens complete when `a > s`, none otherwise -/
theorem reply_complete_iff (a s i : Nat) : reply a s i = .complete ↔ s ≤ i := by
  rw [reply_eq]
  by_cases h : s ≤ i <;> simp [h]

theorem distribute_completions (a s : Nat) :
    ((distribute a s).filter (· == .complete)).length = a - s := by
  unfold distribute
  rw [List.filter_map, List.length_map]
  have : (List.range a).filter ((fun x => x == Reply.complete) ∘ reply a s) =
      (List.range a).filter (fun i => decide (s ≤ i)) :=
    List.filter_congr fun i _ => decide_eq_decide.mpr (reply_complete_iff a s i)
  rw [this]
  clear this
  induction a with
  | zero => simp
  | succ a ih =>
    rw [List.range_succ, List.filter_append, List.length_append, ih]
    by_cases h : s ≤ a
    · rw [List.filter_cons_of_pos (p := fun i => decide (s ≤ i)) (decide_eq_true h)]
      exact (Nat.succ_sub h).symm
    · rw [List.filter_cons_of_neg (p := fun i => decide (s ≤ i)) (by simpa using h), show a - s = 0 by omega,
        show a + 1 - s = 0 by omega]
      rfl

theorem step_n (g : PG) (t : Nat) : (g.step t).1.n = g.n := by
  unfold PG.step; by_cases h : g.waiting.length + 1 = g.n <;> simp [h]
theorem step_m (g : PG) (t : Nat) : (g.step t).1.m = g.m := by
  unfold PG.step; by_cases h : g.waiting.length + 1 = g.n <;> simp [h]

/-- nothing is released before the N-th arrival of an activation -/
theorem pg_holds_until_full (g : PG) (tok : Nat) (h : g.waiting.length + 1 < g.n) :
    (g.step tok).2 = [] ∧ (g.step tok).1.waiting = g.waiting ++ [tok] := by
  unfold PG.step
  have : ¬ (g.waiting.length + 1 = g.n) := by omega
  simp [this]

/-- the N-th arrival releases: N replies (one per waiting token, in arrival order), every outgoing flow
placed exactly once, `N - M` tokens consumed, and the gateway is back in its initial state -/
theorem pg_release (g : PG) (tok : Nat) (h : g.waiting.length + 1 = g.n) :
    let r := g.step tok
    r.1.waiting = [] ∧
    r.2.map (·.1) = g.waiting ++ [tok] ∧
    (r.2.map (·.2)).flatMap Reply.indices = List.range g.m ∧
    ((r.2.map (·.2)).filter (· == .complete)).length = g.n - g.m := by
  unfold PG.step
  have hl : (g.waiting ++ [tok]).length = g.n := by simp; omega
  simp only [hl, beq_self_eq_true, if_true]
  have hd : (distribute g.n g.m).length = (g.waiting ++ [tok]).length := by
    rw [distribute_length, hl]
  refine ⟨trivial, ?_, ?_, ?_⟩
  · rw [List.map_fst_zip]; omega
  · rw [List.map_snd_zip (by omega)]
    exact distribute_partition g.n g.m (by omega)
  · rw [List.map_snd_zip (by omega)]
    exact distribute_completions g.n g.m

/-- the arrival that completes an activation: one more release, the count starts again -/
theorem full_mod_div (w l n : Nat) (h : w + 1 = n) :
    (w + (l + 1)) % n = l % n ∧ (w + (l + 1)) / n = l / n + 1 := by
  rw [show w + (l + 1) = l + n by omega, Nat.add_mod_right, Nat.add_div_right _ (by omega)]
  exact ⟨rfl, rfl⟩

/-- any arrival sequence, any number of activations: after `k*N + r` arrivals (`r < N`) into an idle gateway
there have been exactly `k` releases and `r` tokens are parked -/
theorem pg_run (n m : Nat) (hn : 1 ≤ n) : ∀ (toks : List Nat) (g : PG), g.n = n → g.m = m → g.waiting.length < n →
    let r := g.run toks
    r.1.waiting.length = (g.waiting.length + toks.length) % n ∧
    (r.2.filter (· ≠ [])).length = (g.waiting.length + toks.length) / n ∧
    r.1.n = n ∧ r.1.m = m := by
  intro toks
  induction toks with
  | nil =>
    intro g hgn hgm hw
    exact ⟨(Nat.mod_eq_of_lt hw).symm, (Nat.div_eq_of_lt hw).symm, hgn, hgm⟩
  | cons t ts ih =>
    intro g hgn hgm hw
    have hn' : (g.step t).1.n = n := (step_n g t).trans hgn
    have hm' : (g.step t).1.m = m := (step_m g t).trans hgm
    simp only [PG.run, List.length_cons]
    by_cases hfull : g.waiting.length + 1 = g.n
    · obtain ⟨hstep, hfst, -⟩ := pg_release g t hfull
      have hout : (g.step t).2 ≠ [] := fun e => by
        rw [e] at hfst
        exact List.append_ne_nil_of_right_ne_nil _ (List.cons_ne_nil t []) hfst.symm
      obtain ⟨h1, h2, h3, h4⟩ := ih (g.step t).1 hn' hm' (by rw [hstep]; exact hn)
      obtain ⟨e1, e2⟩ := full_mod_div g.waiting.length ts.length n (hfull.trans hgn)
      rw [hstep, List.length_nil, Nat.zero_add] at h1 h2
      refine ⟨h1.trans e1.symm, ?_, h3, h4⟩
      rw [List.filter_cons, if_pos (by simpa using hout), List.length_cons, h2, e2]
    · obtain ⟨ho, hwait⟩ := pg_holds_until_full g t (by omega)
      obtain ⟨h1, h2, h3, h4⟩ := ih (g.step t).1 hn' hm' (by rw [hwait, List.length_append]; exact by simpa using by omega)
      rw [hwait, List.length_append, List.length_singleton, Nat.add_assoc, Nat.add_comm 1] at h1 h2
      refine ⟨h1, ?_, h3, h4⟩
      rw [List.filter_cons, if_neg (by simp [ho]), h2]

/-- the full statement of C03 on the model -/
def C03_statement : Prop :=
  (∀ a s, 1 ≤ a → (distribute a s).length = a ∧ (distribute a s).flatMap Reply.indices = List.range s ∧
      ((distribute a s).filter (· == .complete)).length = a - s) ∧
  (∀ (g : PG) tok, g.waiting.length + 1 < g.n → (g.step tok).2 = []) ∧
  (∀ (g : PG) tok, g.waiting.length + 1 = g.n →
      (g.step tok).1.waiting = [] ∧ (g.step tok).2.map (·.1) = g.waiting ++ [tok] ∧
      ((g.step tok).2.map (·.2)).flatMap Reply.indices = List.range g.m ∧
      (((g.step tok).2.map (·.2)).filter (· == .complete)).length = g.n - g.m) ∧
  (∀ n m, 1 ≤ n → ∀ (toks : List Nat),
      let r := ({ n, m } : PG).run toks
      r.1.waiting.length = toks.length % n ∧ (r.2.filter (· ≠ [])).length = toks.length / n)

theorem C03_holds : C03_statement := by
  refine ⟨?_, ?_, ?_, ?_⟩
  · intro a s ha
    exact ⟨distribute_length a s, distribute_partition a s ha, distribute_completions a s⟩
  · intro g tok h; exact (pg_holds_until_full g tok h).1
  · intro g tok h; exact pg_release g tok h
  · intro n m hn toks
    have := pg_run n m hn toks { n, m } rfl rfl (by simp; omega)
    simp only [List.length_nil, Nat.zero_add] at this
    exact ⟨this.1, this.2.1⟩

/-! non-vacuity / examples (tests, not the claim) -/
example : distribute 3 2 = [.flows 0 1, .flows 1 2, .complete] := by decide
example : distribute 2 4 = [.flows 0 1, .flows 1 4] := by decide
example : (({ n := 2, m := 3 } : PG).run [7, 8, 9]).2 = [[], [(7, .flows 0 1), (8, .flows 1 3)], []] := by decide

end Bpmn.Props.C03
