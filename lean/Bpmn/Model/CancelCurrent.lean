import Bpmn.Model.Cancel
import Bpmn.Gen.C07
/-!
The tables extracted from the current /repo tree (`Bpmn.Gen.C07`, regenerated on every run) read as a table of
goroutine kinds of the cancellation protocol model. Definitions only (the theorems about them are in
`Props/C07Current.lean`; the driver uses the same definitions to say what the model predicts for a leftover
goroutine). A table the extractor could not read is empty here; `Props/C07Current.lean` has the obligation that
all of them were read.

Whether the partner of an operation WITHOUT a cancellation alternative is guaranteed cannot be read off the
syntax alone; `justification` is the hand-maintained list of the reasons accepted (each with what is still
checked on the extracted row). Everything not justified counts as failing.
-/
namespace Bpmn.Model.CancelCurrent
open Bpmn.Model.Cancel

abbrev GoRow := String × String × Bool × Bool × Bool
abbrev OpRow := String × String × String × String × Bool × Option Nat

def GoRow.site (g : GoRow) : String := g.1
def GoRow.body (g : GoRow) : String := g.2.1
def GoRow.sends (g : GoRow) : Bool := g.2.2.1
def GoRow.registers (g : GoRow) : Bool := g.2.2.2.1
def GoRow.callsDone (g : GoRow) : Bool := g.2.2.2.2
def OpRow.body (r : OpRow) : String := r.1
def OpRow.fn (r : OpRow) : String := r.2.1
def OpRow.kind (r : OpRow) : String := r.2.2.1
def OpRow.chan (r : OpRow) : String := r.2.2.2.1
def OpRow.cancelAlt (r : OpRow) : Bool := r.2.2.2.2.1
def OpRow.cap (r : OpRow) : Option Nat := r.2.2.2.2.2
def OpRow.key (r : OpRow) : String × String × String := (r.fn, r.kind, r.chan)

inductive Why where
  /-- a reply channel created with capacity ≥ 1 by the requester for exactly one reply; checked: capacity ≥ 1 -/
  | bufferedReply
  /-- a node inbox of capacity 2·incoming+1; assumed never full (a token has at most one message outstanding per
  node); checked: capacity ≥ 1 -/
  | inbox
  /-- the receiver is a loop that serves this channel until the tracer has terminated -/
  | servedUntilDone
  /-- the requester waits synchronously, without alternative, for exactly this message -/
  | syncRequester
  /-- a subscriber must keep reading until it unsubscribes (API contract of `SubscribeChannel`); checked: no function
  of the engine subscribes without ever unsubscribing (`subscribersWithoutUnsubscribe = []`) -/
  | subscriberContract
deriving DecidableEq, Repr

def justification : List ((String × String × String) × Why) := [
  (("endEvent.run", "send", "_.response"), .bufferedReply),
  (("exclusiveGateway.run", "send", "_"), .bufferedReply),
  (("exclusiveGateway.run", "send", "_.response"), .bufferedReply),
  (("harness.run", "send", "_.response"), .bufferedReply),
  (("harness.run$1", "send", "_"), .bufferedReply),
  (("genericTask.run$1", "send", "_.response"), .bufferedReply),
  (("subProcess.run$1", "send", "_.response"), .bufferedReply),
  (("taskTrace.process", "send", "_.response"), .bufferedReply),
  (("Process.WaitUntilComplete$1", "send", "_"), .bufferedReply),
  -- node loops answering a token: one reply per channel; fine once the channel made by NextAction is buffered
  (("startEvent.run", "send", "_.response"), .bufferedReply),
  (("throwEvent.run", "send", "_.response"), .bufferedReply),
  (("catchEvent.run", "send", "_"), .bufferedReply),
  (("eventBasedGateway.run", "send", "_.response"), .bufferedReply),
  (("inclusiveGateway.trySync", "send", "_.activated.response"), .bufferedReply),
  (("distributeFlows", "send", "_"), .bufferedReply),   -- buffered since the fix of D2 (3a1abd8)
  (("catchEvent.NextAction", "send", "_.mch"), .inbox),
  (("catchEvent.ConsumeEvent", "send", "_.mch"), .inbox),
  (("endEvent.NextAction", "send", "_.mch"), .inbox),
  (("startEvent.NextAction", "send", "_.mch"), .inbox),
  (("startEvent.ConsumeEvent", "send", "_.mch"), .inbox),
  (("startEvent.Trigger", "send", "_.mch"), .inbox),
  (("throwEvent.NextAction", "send", "_.mch"), .inbox),
  (("throwEvent.ConsumeEvent", "send", "_.mch"), .inbox),
  (("throwEvent.Trigger", "send", "_.mch"), .inbox),
  (("eventBasedGateway.NextAction", "send", "_.mch"), .inbox),
  (("exclusiveGateway.NextAction", "send", "_.mch"), .inbox),
  (("exclusiveGateway.run$1", "send", "_.mch"), .inbox),
  (("exclusiveGateway.run$lit", "send", "_.mch"), .inbox),
  (("inclusiveGateway.NextAction", "send", "_.mch"), .inbox),
  (("inclusiveGateway.run$1", "send", "_.mch"), .inbox),
  (("inclusiveGateway.trySync$lit", "send", "_.mch"), .inbox),
  (("parallelGateway.NextAction", "send", "_.mch"), .inbox),
  (("harness.NextAction", "send", "_.mch"), .inbox),
  (("genericTask.NextAction", "send", "_.mch"), .inbox),
  (("genericTask.Cancel", "send", "_.mch"), .inbox),
  (("subProcess.NextAction", "send", "_.mch"), .inbox),
  (("subProcess.Cancel", "send", "_.mch"), .inbox),
  (("ProcessSet.tracerProcess", "send", "_.mch"), .inbox),
  (("genericTask.run", "send", "_.response"), .syncRequester),     -- reply to `<-node.activity.Cancel()`
  (("subProcess.run", "send", "_.response"), .syncRequester),
  (("tracing.tracer.run", "send", "_.ok"), .syncRequester),      -- SubscribeChannel waits on `<-okCh`
  (("tracing.tracer.run", "send", "_.ok"), .syncRequester),    -- Unsubscribe loops on `<-okChan`
  (("tracing.tracer.run", "send", "_"), .subscriberContract),
  (("tracing.tracer.run$1", "send", "_.terminate"), .servedUntilDone)]

/-- functions that subscribe to a tracer and never unsubscribe (extracted) -/
def deadSubscribers : List String := Bpmn.Gen.C07.subscribersWithoutUnsubscribe.getD []

def partnerOf (r : OpRow) : Bool :=
  match justification.lookup r.key with
  | some .bufferedReply | some .inbox =>
    (match r.cap with
     | some c => decide (1 ≤ c)
     | none => false)
  | some .subscriberContract => deadSubscribers.isEmpty
  | some _ => true
  | none => false

def opOf (r : OpRow) : Op := ⟨r.cancelAlt, partnerOf r⟩

/-- `sync.WaitGroup.Wait` rows are not actor operations (see Model/Cancel.lean) -/
def isActorOp (r : OpRow) : Bool := r.kind != "wgwait"

/-- go sites whose handle comes from ANOTHER tracer than the one the body sends on (extracted): with respect to the
tracer it sends on, such a goroutine is not a registered sender -/
def otherTracer : List String := Bpmn.Gen.C07.registrationOnOtherTracer.getD []

/-- registered with the tracer it sends on -/
def GoRow.registered (g : GoRow) : Bool := g.registers && !otherTracer.contains g.site

def kindOf (ops : List OpRow) (g : GoRow) : Kind :=
  { name := g.site,
    ops := (ops.filter (fun r => r.body == g.body && isActorOp r)).map opOf,
    sends := g.sends, registered := g.registered,
    -- `Done()` on a handle of another tracer does nothing for this one
    callsDone := g.callsDone && !otherTracer.contains g.site }

def tableOf (gs : List GoRow) (ops : List OpRow) : List Kind := gs.map (kindOf ops)

/-- the extracted tables (a table the extractor could not read, `none`, is empty here) -/
def goRows : List GoRow := Bpmn.Gen.C07.goroutines.getD []
def opRows : List OpRow := Bpmn.Gen.C07.blockingOps.getD []
def carries : Bool := Bpmn.Gen.C07.taskRequestCarriesRunCtx.getD false
def hotPolls : List (String × String) := Bpmn.Gen.C07.hotPollAfterCancel.getD []
def subTracerDetached : Bool := Bpmn.Gen.C07.subProcessTracerDetached.getD true

def current : List Kind := tableOf goRows opRows

/-- goroutine sites that send traces without being registered senders -/
def failingSenderBodies : List String :=
  ((goRows.filter (fun g => g.sends && !g.registered)).map GoRow.body).eraseDups

def failingSenders : List String :=
  (goRows.filter (fun g => g.sends && !g.registered)).map GoRow.site

/-- sites where registration and `Done()` do not go together -/
def unbalanced : List String :=
  (goRows.filter (fun g => g.registers != g.callsDone)).map GoRow.site

/-- operations with neither a cancellation alternative nor a justified partner -/
def failingOps : List (String × String × String) :=
  ((opRows.filter (fun r => isActorOp r && !(opOf r).passable)).map OpRow.key).eraseDups

/-- the inner tracer of an embedded sub-process: its `select` has a `ctx.Done()` alternative, but `ctx` is the
sub-process's own (derived from `context.Background()`, cancelled by `defer sp.cancel()` in `subProcess.run`). For
a sub-process the token never entered nobody cancels it: with respect to the INSTANCE's cancel the alternative is
not there. -/
def subTracerKind : Kind :=
  { name := "newSubProcess→tracing.tracer.run", ops := [⟨!subTracerDetached, false⟩],
    sends := false, registered := false, callsDone := false }


/-- every table was found by the extractor -/
def tablesFound : Bool :=
  Bpmn.Gen.C07.goroutines.isSome && Bpmn.Gen.C07.blockingOps.isSome && Bpmn.Gen.C07.taskRequestCarriesRunCtx.isSome &&
  Bpmn.Gen.C07.hotPollAfterCancel.isSome && Bpmn.Gen.C07.subProcessTracerDetached.isSome &&
  Bpmn.Gen.C07.subscribersWithoutUnsubscribe.isSome && Bpmn.Gen.C07.registrationOnOtherTracer.isSome

end Bpmn.Model.CancelCurrent
