/-!
# Layer 1 model of the tracer (pkg/tracing/tracer.go) — a port of what the Go code does

One broadcaster goroutine (`tracer.run`) owns the ordered list `subscribers` and serves three UNBUFFERED channels
(`traces`, `subscription`, `unSubscription`) from one `select`; a trace it has taken is pushed to every subscriber
channel, in list order, before anything else is taken (`for _, subscriber := range t.subscribers { subscriber <- trace }`),
so a full subscriber buffer blocks the broadcaster and, through it, every `Send`, `Subscribe` and `Unsubscribe`.

Clients:
* `Send(trace)`            `t.traces <- trace`; returns when the broadcaster has TAKEN the trace.
* `SubscribeChannel(ch)`   `t.subscription <- {ch, ok}` then `<-ok` (`ok` has capacity 1: the broadcaster never
                           waits for the client to pick the acknowledgement up). `Subscribe()` is
                           `SubscribeChannel(make(chan ITrace, 10))`.
* `Unsubscribe(ch)`        a loop over `select { <-channel (drain one) | t.unSubscription <- {ch, ok} | <-ok (return) }`;
                           `ok` is unbuffered: after the removal the broadcaster waits in `unsch.ok <- struct{}{}`
                           until the client's loop takes it. The removal is
                           `subscribers[pos] = subscribers[l]; subscribers = subscribers[:l]` with `pos` the first
                           index holding the channel. A channel that is NOT in the list gets no acknowledgement: the
                           loop offers the request again, for ever.

The model is a small-step machine. Every step is one channel operation of one goroutine; which goroutine moves is
an explicit `Act` chosen by the scheduler, and the theorems quantify over ALL action lists (`run`): actions that
are not enabled in the current state are skipped, so every list is a schedule.

Ghost state (read by no step): `log` — the traces in the order the broadcaster took them (the global send order);
per channel `start`/`stop` — the length of `log` when the broadcaster appended / removed the channel; `recvd`
and `drained` — what left the channel through the subscriber's consumer / through the `Unsubscribe` loop;
`misuse` — set when `Unsubscribe` is called on a channel that is not subscribed.

Usage discipline built into the enabledness of the client actions (what /repo's callers do): a channel is created
for one subscription (`callSub` allocates a fresh channel id); its consumer reads only between the return of
`SubscribeChannel` and the call of `Unsubscribe` (the consumer goroutine is the one that calls `Unsubscribe`);
a sender is a sequential goroutine (one `Send` in flight per sender id).

Not modelled: termination (`ctx.Done`, `terminate`, `Done()`, closing of the subscriber channels) — C07's subject.
-/
namespace Bpmn.Model.Tracer

/-- a trace: who sent it and its number in that sender's program order -/
structure Msg where
  sender : Nat
  seq : Nat
deriving DecidableEq, Repr, Inhabited

/-- where the client that owns a channel is in its calls -/
inductive CStat
  | absent        -- channel id not allocated
  | subWait       -- in `SubscribeChannel`, blocked on `t.subscription <- sub`
  | subAcked      -- the broadcaster appended the channel and put `ok` into the (capacity 1) ok channel; the client has not yet returned
  | active        -- subscribed; `SubscribeChannel` has returned; the consumer reads
  | unsubOffer    -- in the `Unsubscribe` loop, the request not (or, for a channel that is not subscribed: never effectively) taken
  | unsubWaitOk   -- the broadcaster removed the channel and waits in `unsch.ok <- struct{}{}`
  | done          -- `Unsubscribe` has returned
deriving DecidableEq, Repr, Inhabited

structure Chan where
  cap : Nat := 0
  stat : CStat := .absent
  buf : List Msg := []
  recvd : List Msg := []
  drained : List Msg := []
  start : Nat := 0
  stop : Option Nat := none
deriving Repr

/-- the broadcaster's program counter -/
inductive Pc
  | idle                          -- in the `select`
  | push (x : Msg) (i : Nat)      -- in the range loop: `subscribers[i] <- x` is the operation it is blocked on / about to do
  | ackUnsub (c : Nat)            -- in `unsch.ok <- struct{}{}` for channel c
deriving DecidableEq, Repr, Inhabited

/-- facts of the code the behaviour depends on (`Driver/C09.lean` builds the value for /repo from the generated `Gen/C09`) -/
structure Cfg where
  /-- the `Unsubscribe` loop has a `case <-channel` alternative -/
  unsubDrains : Bool := true
  /-- capacity of the channel `Subscribe()` makes (recorded only: `Act.callSub` carries the capacity) -/
  defaultCap : Nat := 10
deriving Repr, DecidableEq

structure St where
  chan : Nat → Chan := fun _ => {}
  nchan : Nat := 0
  subs : List Nat := []
  pc : Pc := .idle
  log : List Msg := []
  pending : List Msg := []        -- `Send` calls blocked on `t.traces <- trace`
  next : Nat → Nat := fun _ => 0  -- per sender: how many `Send` calls it has begun
  misuse : Bool := false

def init : St := {}

inductive Act
  -- clients begin a call (the environment)
  | callSub (cap : Nat)
  | callUnsub (c : Nat)
  | callSend (s : Nat)
  -- the broadcaster's `select` takes something
  | recvTrace (k : Nat)       -- `case trace := <-t.traces`, from the k-th blocked `Send`
  | recvSub (c : Nat)         -- `case sch := <-t.subscription`: append, acknowledge
  | recvUnsub (c : Nat)       -- `case unsch := <-t.unSubscription`: find, swap-remove, then `ackUnsub`
  -- the broadcaster's range loop
  | push                      -- `subscriber <- trace` goes into the buffer
  -- channel reads
  | consume (c : Nat)         -- the subscriber's consumer takes one trace (from the buffer, or directly from the blocked broadcaster)
  | drain (c : Nat)           -- `case <-channel` of the `Unsubscribe` loop
  -- clients finish a call
  | subReturn (c : Nat)       -- `<-okCh`; `SubscribeChannel` returns
  | takeOk (c : Nat)          -- `case <-okChan: return`, the rendezvous with `ackUnsub`
deriving DecidableEq, Repr, Inhabited

/-- environment actions begin a new client call; everything else is a step of a goroutine already inside the protocol -/
def Act.isEnv : Act → Bool
  | .callSub _ | .callUnsub _ | .callSend _ => true
  | _ => false

def St.upd (s : St) (c : Nat) (f : Chan → Chan) : St :=
  { s with chan := fun j => if j = c then f (s.chan j) else s.chan j }

/-- `subscribers[pos] = subscribers[l]; subscribers[l] = nil; subscribers = subscribers[:l]` -/
def swapRemove (l : List Nat) (pos : Nat) : List Nat :=
  (l.set pos (l.getLastD 0)).dropLast

/-- the range loop moves on after `subscribers[i]` got the trace -/
def St.advance (s : St) (x : Msg) (i : Nat) : St :=
  if i + 1 < s.subs.length then { s with pc := .push x (i + 1) } else { s with pc := .idle }

/-- is the broadcaster blocked on / about to do `c <- x` ? -/
def St.offering (s : St) (c : Nat) : Option (Msg × Nat) :=
  match s.pc with
  | .push x i => if s.subs[i]? = some c then some (x, i) else none
  | _ => none

/-- `subscribers[i] <- x` completes for `subscribers[i] = d`: x joins d's queue and the range loop moves on -/
def St.deliver (s : St) (d : Nat) (x : Msg) (i : Nat) : St :=
  (s.upd d (fun ch => { ch with buf := ch.buf ++ [x] })).advance x i

/-- the reader of channel c takes the oldest queued trace; `drain`: the reader is the `Unsubscribe` loop -/
def St.take (s : St) (c : Nat) (drain : Bool) : Option St :=
  match (s.chan c).buf with
  | h :: t =>
    some (s.upd c (fun ch =>
      if drain then { ch with buf := t, drained := ch.drained ++ [h] }
      else { ch with buf := t, recvd := ch.recvd ++ [h] }))
  | [] => none

/-- a receive on channel c: from the queue, or — queue empty and the broadcaster blocked on / about to do `c <- x` —
directly from the broadcaster (the rendezvous of an unbuffered channel; with a buffer it is a push followed at once by
the take) -/
def St.read (s : St) (c : Nat) (drain : Bool) : Option St :=
  match s.take c drain with
  | some s' => some s'
  | none =>
    match s.offering c with
    | some (x, i) => (s.deliver c x i).take c drain
    | none => none

/-- `case trace := <-t.traces`: the k-th blocked `Send` hands `x` over; the range loop starts -/
def St.takeTrace (s : St) (k : Nat) (x : Msg) : St :=
  { s with pending := s.pending.eraseIdx k, log := s.log ++ [x],
           pc := if s.subs.isEmpty then .idle else .push x 0 }

/-- `case sch := <-t.subscription`: `append(t.subscribers, sch.channel)`; `sch.ok <- struct{}{}` (capacity 1) -/
def St.acceptSub (s : St) (c : Nat) : St :=
  { s.upd c (fun ch => { ch with stat := .subAcked, start := s.log.length }) with subs := s.subs ++ [c] }

/-- `case unsch := <-t.unSubscription` with the channel in the list: swap-remove, then `unsch.ok <- struct{}{}` -/
def St.removeSub (s : St) (c : Nat) : St :=
  { s.upd c (fun ch => { ch with stat := .unsubWaitOk, stop := some s.log.length }) with
    subs := swapRemove s.subs (s.subs.idxOf c), pc := .ackUnsub c }

/-- the `Unsubscribe` loop takes the acknowledgement and returns; the broadcaster is back in its `select` -/
def St.finishUnsub (s : St) (c : Nat) : St :=
  { s.upd c (fun ch => { ch with stat := .done }) with pc := .idle }

def step (cfg : Cfg) (s : St) : Act → Option St
  | .callSub cap =>
    some { s.upd s.nchan (fun _ => { cap := cap, stat := .subWait }) with nchan := s.nchan + 1 }
  | .callUnsub c =>
    match (s.chan c).stat with
    | .active => some (s.upd c (fun ch => { ch with stat := .unsubOffer }))
    | .done => some { s.upd c (fun ch => { ch with stat := .unsubOffer }) with misuse := true }
    | _ => none
  | .callSend sd =>
    if s.pending.any (fun m => m.sender == sd) then none
    else some { s with pending := s.pending ++ [⟨sd, s.next sd⟩],
                       next := fun j => if j = sd then s.next sd + 1 else s.next j }
  | .recvTrace k =>
    match s.pc, s.pending[k]? with
    | .idle, some x => some (s.takeTrace k x)
    | _, _ => none
  | .recvSub c =>
    match s.pc, (s.chan c).stat with
    | .idle, .subWait => some (s.acceptSub c)
    | _, _ => none
  | .recvUnsub c =>
    match s.pc, (s.chan c).stat with
    | .idle, .unsubOffer =>
      if c ∈ s.subs then some (s.removeSub c)
      else some s   -- `pos = -1`: no acknowledgement; the client's loop will offer the request again
    | _, _ => none
  | .push =>
    match s.pc with
    | .push x i =>
      match s.subs[i]? with
      | some d => if (s.chan d).buf.length < (s.chan d).cap then some (s.deliver d x i) else none
      | none => none
    | _ => none
  | .consume c =>
    match (s.chan c).stat with
    | .active => s.read c false
    | _ => none
  | .drain c =>
    if cfg.unsubDrains && ((s.chan c).stat == .unsubOffer || (s.chan c).stat == .unsubWaitOk) then s.read c true
    else none
  | .subReturn c =>
    match (s.chan c).stat with
    | .subAcked => some (s.upd c (fun ch => { ch with stat := .active }))
    | _ => none
  | .takeOk c =>
    match s.pc, (s.chan c).stat with
    | .ackUnsub d, .unsubWaitOk =>
      if d = c then some (s.finishUnsub c) else none
    | _, _ => none

/-- a schedule is any list of actions; an action that is not enabled where it is scheduled is skipped -/
def step' (cfg : Cfg) (s : St) (a : Act) : St := (step cfg s a).getD s

def run (cfg : Cfg) (s : St) (sched : List Act) : St := sched.foldl (step' cfg) s

/-- the segment of the global order a channel is entitled to so far: from its `start` up to its `stop`, or, while it
is subscribed, up to the last trace the range loop has already carried past it -/
def St.upto (s : St) (c : Nat) : Nat :=
  match (s.chan c).stop with
  | some e => e
  | none =>
    match s.pc with
    | .push _ i => if c ∈ s.subs.drop i then s.log.length - 1 else s.log.length
    | _ => s.log.length

def St.segment (s : St) (c : Nat) : List Msg :=
  (s.log.take (s.upto c)).drop (s.chan c).start

/-! ### progress measure

`mu` bounds the number of steps the goroutines that are inside the protocol can still take when no new call is begun:
every blocked `Send` costs its hand-over plus a push and a read per subscriber there can be (`smax`: the list plus
the subscriptions still waiting to be appended), the running range loop its remaining pushes (and their reads),
every queued trace one read, every client inside `SubscribeChannel` / `Unsubscribe` its remaining hand-shakes
(`CStat.weight`). -/

def sumTo (n : Nat) (w : Nat → Nat) : Nat := ((List.range n).map w).sum

def CStat.weight : CStat → Nat
  | .subWait => 2
  | .subAcked => 1
  | .unsubOffer => 2
  | .unsubWaitOk => 1
  | _ => 0

def St.waiting (s : St) : Nat := sumTo s.nchan (fun c => if (s.chan c).stat = .subWait then 1 else 0)
def St.smax (s : St) : Nat := s.subs.length + s.waiting
def St.load (s : St) : Nat := sumTo s.nchan (fun c => (s.chan c).buf.length + (s.chan c).stat.weight)
def St.pushRem (s : St) : Nat :=
  match s.pc with
  | .push _ i => s.subs.length - i
  | _ => 0
def St.mu (s : St) : Nat := s.pending.length * (1 + 2 * s.smax) + 2 * s.pushRem + s.load

/-- some client is inside a call, or the broadcaster is not in its `select` -/
def St.Busy (s : St) : Prop :=
  s.pending ≠ [] ∨ s.pc ≠ .idle ∨ ∃ c, (s.chan c).stat.weight ≠ 0

/-- every action of the list is enabled where it is scheduled -/
def allEnabled (cfg : Cfg) : St → List Act → Prop
  | _, [] => True
  | s, a :: l => ∃ s', step cfg s a = some s' ∧ allEnabled cfg s' l

end Bpmn.Model.Tracer
