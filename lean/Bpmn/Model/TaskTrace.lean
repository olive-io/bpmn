/-
Layer 1: one task request (`taskTrace` in activity.go) at channel-operation granularity, plus the layer-0 pieces
the flow loop uses when an answer carries an error (`Retry` of retry.go and the error switch of `flow.Start`).

A port of what the Go code DOES:

```
func (t *taskTrace) Do(options ...DoOption) {
    select { case <-t.done: return; default: }          -- Act.check   (start → passed | returned)
    response := newDoOption(options...)
    t.forward <- *response                               -- Act.send    (passed → sent); a plain send as first extracted,
                                                         --   since repair 44cbc18 in a `select` with `case <-t.done:` (Act.bail)
}                                                        -- Act.ret     (sent → returned)

func (t *taskTrace) process() {
    select {
    case <-t.ctx.Done(): rsp := err(ctx)                 -- Act.fireCtx      (waiting → got errCtx)
    case <-timeoutCh:    rsp := err(timed out)           -- Act.fireTimeout  (waiting → got errTimeout)
    case rsp := <-t.forward:                             -- Act.recv         (waiting → got (val i))
    }
    t.response <- rsp                                    -- Act.respond      (got v → forwarded)
    close(t.done)                                        -- Act.close        (forwarded → closed)
}
```

and of the reader of `t.response` (the task goroutine in task_generic.go: `select { case <-ctx.Done(): return;
case out := <-at.out(): … }` — `Act.leave` / `Act.consume`).

The capacities of `forward` and `response` and the shape of the send in `Do` are PARAMETERS (`Cfg`), regenerated
from the source on every run. Every `Do` call is a caller index `i : Nat` (its value is `Val.val i`); a schedule is
a list of `Act`; an act that is not enabled leaves the state unchanged.
-/
namespace Bpmn.Model.TaskTrace

/-- how `Do` performs its send on `forward` -/
inductive SendMode where
  | blocking      -- plain `t.forward <- v`
  | selDefault    -- `select { case t.forward <- v: default: }`
  | selDone       -- `select { case t.forward <- v: case <-t.done: }`
deriving Repr, BEq, DecidableEq

structure Cfg where
  forwardCap : Nat
  responseCap : Nat
  doSendHasDefault : Bool
  doSendHasDoneAlt : Bool
deriving Repr, BEq, DecidableEq

def Cfg.mode (c : Cfg) : SendMode :=
  if c.doSendHasDefault then .selDefault else if c.doSendHasDoneAlt then .selDone else .blocking

/-- what travels on `forward` / `response`: the answer of caller `i`, or an error made by `process` itself -/
inductive Val where
  | val (caller : Nat)
  | errCtx
  | errTimeout
deriving Repr, BEq, DecidableEq

/-- program counter of one `Do` call -/
inductive Pc where
  | start | passed | sent | returned
deriving Repr, BEq, DecidableEq

/-- the `process` goroutine -/
inductive Proc where
  | waiting | got (v : Val) | forwarded | closed
deriving Repr, BEq, DecidableEq

/-- the reader of `response` -/
inductive Cons where
  | waiting | got (v : Val) | gone
deriving Repr, BEq, DecidableEq

structure St where
  pc : Nat → Pc
  fwd : List Nat          -- buffer of `forward` (caller indices), oldest first
  proc : Proc
  resp : List Val         -- buffer of `response`
  done : Bool             -- `done` closed
  ctxDone : Bool
  timerFired : Bool
  cons : Cons
  sendLog : List Nat      -- ghost: callers whose send completed, in order
  respLog : List Val      -- ghost: every value ever sent on `response`, in order

def init : St :=
  { pc := fun _ => .start, fwd := [], proc := .waiting, resp := [], done := false, ctxDone := false,
    timerFired := false, cons := .waiting, sendLog := [], respLog := [] }

inductive Act where
  | check (i : Nat) | send (i : Nat) | bail (i : Nat) | ret (i : Nat)
  | recv | fireCtx | fireTimeout | respond | close
  | consume | leave
  | cancel | expire
deriving Repr, BEq, DecidableEq

def St.setPc (s : St) (i : Nat) (p : Pc) : St := { s with pc := fun j => if j = i then p else s.pc j }

/-- one step; `none` = the act is not enabled (a blocked goroutine, or an act that does not apply) -/
def step (cfg : Cfg) (s : St) : Act → Option St
  | .check i =>
    match s.pc i with
    | .start => some (s.setPc i (if s.done then .returned else .passed))
    | _ => none
  | .send i =>
    match s.pc i with
    | .passed =>
      if s.fwd.length < cfg.forwardCap then
        some { s.setPc i .sent with fwd := s.fwd ++ [i], sendLog := s.sendLog ++ [i] }
      else if cfg.forwardCap = 0 ∧ s.proc = .waiting then
        -- unbuffered channel: the value is handed to the receiver parked in `process`'s select
        some { s.setPc i .sent with proc := .got (.val i), sendLog := s.sendLog ++ [i] }
      else none
    | _ => none
  | .bail i =>
    match s.pc i with
    | .passed =>
      match cfg.mode with
      | .blocking => none
      | .selDefault => if s.fwd.length < cfg.forwardCap then none else some (s.setPc i .returned)
      | .selDone => if s.done then some (s.setPc i .returned) else none
    | _ => none
  | .ret i =>
    match s.pc i with
    | .sent => some (s.setPc i .returned)
    | _ => none
  | .recv =>
    match s.proc, s.fwd with
    | .waiting, v :: rest => some { s with proc := .got (.val v), fwd := rest }
    | _, _ => none
  | .fireCtx => if s.proc = .waiting ∧ s.ctxDone = true then some { s with proc := .got .errCtx } else none
  | .fireTimeout => if s.proc = .waiting ∧ s.timerFired = true then some { s with proc := .got .errTimeout } else none
  | .respond =>
    match s.proc with
    | .got v =>
      if s.resp.length < cfg.responseCap then
        some { s with proc := .forwarded, resp := s.resp ++ [v], respLog := s.respLog ++ [v] }
      else if cfg.responseCap = 0 ∧ s.cons = .waiting then
        some { s with proc := .forwarded, cons := .got v, respLog := s.respLog ++ [v] }
      else none
    | _ => none
  | .close =>
    match s.proc with
    | .forwarded => some { s with proc := .closed, done := true }
    | _ => none
  | .consume =>
    match s.cons, s.resp with
    | .waiting, v :: rest => some { s with cons := .got v, resp := rest }
    | _, _ => none
  | .leave => if s.cons = .waiting ∧ s.ctxDone = true then some { s with cons := .gone } else none
  | .cancel => if s.ctxDone then none else some { s with ctxDone := true }
  | .expire => if s.timerFired then none else some { s with timerFired := true }

def stepD (cfg : Cfg) (s : St) (a : Act) : St := (step cfg s a).getD s

/-- run a schedule (a scheduler choice list); acts that are not enabled are skipped -/
def run (cfg : Cfg) (s : St) (sched : List Act) : St := sched.foldl (stepD cfg) s

def pcRank : Pc → Nat
  | .start => 0 | .passed => 1 | .sent => 2 | .returned => 3

def procRank : Proc → Nat
  | .waiting => 0 | .got _ => 1 | .forwarded => 2 | .closed => 3

/-- the acts caller `i` can wait for: its own, and the three of `process` that need no outside event -/
def coreActs (i : Nat) : List Act := [.check i, .send i, .bail i, .ret i, .recv, .respond, .close]

/-- a fixed continuation that lets caller `i` and `process` (nobody else) run: six own attempts (at most
three of which can be effective) and three steps of `process` -/
def drive (i : Nat) : List Act :=
  [.check i, .send i, .bail i, .recv, .respond, .close, .send i, .bail i, .ret i]

/-- side condition on the facts under which no `Do` can block for ever -/
def Ok (cfg : Cfg) : Bool :=
  match cfg.mode with
  | .blocking => false
  | .selDefault => true
  | .selDone => decide (1 ≤ cfg.responseCap)

/-- `n` further callers `b, b+1, …` each pass the `done` check and send -/
def fill : Nat → Nat → List Act
  | _, 0 => []
  | b, n + 1 => .check b :: .send b :: fill (b + 1) n

/-- witness schedule for a blocking send: caller 0 passes the check; caller 1's value is taken by `process`;
callers 2 … cap+1 fill the buffer. Caller 0 (the (cap+2)-th caller — the third for capacity 1) then blocks
for ever. -/
def witnessBlocking (cap : Nat) : List Act :=
  [.check 0, .check 1, .send 1, .recv] ++ fill 2 cap

/-- witness schedule for `select { case forward <- v: case <-done: }` with an UNBUFFERED response channel: the
context is cancelled, the reader of `response` leaves, `process` can never deliver its error and never closes
`done`; callers 1 … cap fill the buffer and caller 0 blocks for ever. -/
def witnessNoReader (cap : Nat) : List Act :=
  [.cancel, .leave, .fireCtx, .check 0] ++ fill 1 cap

def witness (cfg : Cfg) : List Act :=
  match cfg.mode with
  | .blocking => witnessBlocking cfg.forwardCap
  | _ => witnessNoReader cfg.forwardCap

/-- the witness of DESIGN.md for forward capacity 1 and a blocking send (the facts before repair 44cbc18): three
callers pass the `done` check before `process` runs; one value is forwarded, one sits in the buffer, the third
sender blocks -/
def witnessThree : List Act :=
  [.check 0, .check 1, .check 2, .send 0, .recv, .send 1, .respond, .close, .ret 0, .ret 1, .consume]

/-! ## Layer 0: `Retry` (retry.go) and the error switch of the flow loop (flow.go) -/

/-- `Retry{limit, attempts int32}`; arithmetic is modelled over `Int` (fewer than 2^31 attempts) -/
structure Retry where
  limit : Int := 0
  attempts : Int := 0
deriving Repr, BEq, DecidableEq

/-- the limit that means "for ever" -/
def retrySentinel : Int := -1

def Retry.isContinue (r : Retry) : Bool := r.limit == retrySentinel || decide (r.limit > r.attempts)
def Retry.reset (r : Retry) (retries : Int) : Retry := { r with limit := retries }
def Retry.stepR (r : Retry) : Retry := { r with attempts := r.attempts + 1 }

/-- what the driver's answer carries besides the error: `res.handler == nil`, or the `ErrHandler` read from it -/
inductive Handler where
  | none
  | mode (m : Nat) (retries : Int)      -- m: 1 RetryMode, 2 SkipMode, 3 ExitMode, anything else: no case of the switch
deriving Repr, BEq, DecidableEq

inductive Ans where
  | ok
  | err (h : Handler)
deriving Repr, BEq, DecidableEq

/-- what the token does next -/
inductive Outcome where
  | continue_     -- results / data outputs are applied, the outgoing flows are evaluated
  | rerequest     -- `goto await`: `NextAction` is called again, the task is requested once more
  | endToken      -- `return`: the token ends
deriving Repr, BEq, DecidableEq

inductive Ev where
  | request | errorTrace | continued | ended
deriving Repr, BEq, DecidableEq

/-- `f.retry` (`nil` until the first retry handler); `td` = `taskDefinition.Retries` of the current node -/
def errSwitch (td : Int) (r : Option Retry) : Handler → Outcome × Option Retry
  | .none => (.continue_, r)
  | .mode 1 retries =>
    let r0 : Retry := match r with
      | some x => x
      | none => ({} : Retry).reset td
    let r1 := r0.reset retries            -- `f.retry.Reset(handler.Retries)`: every time
    if r1.isContinue then (.rerequest, some r1.stepR) else (.endToken, some r1)
  | .mode 3 _ => (.endToken, r)
  | .mode _ _ => (.continue_, r)

/-- one answer handled by the token: the events it emits, in order, then what it does -/
def onAnswer (td : Int) (r : Option Retry) : Ans → List Ev × Outcome × Option Retry
  | .ok => ([], .continue_, r)
  | .err h =>
    let (o, r') := errSwitch td r h
    ([.errorTrace], o, r')

/-- the token stands at a task and receives the answers in order (one answer per request) -/
def tokenRun (td : Int) : Option Retry → List Ans → List Ev × Option Retry
  | r, [] => ([.request], r)
  | r, a :: rest =>
    match onAnswer td r a with
    | (evs, .continue_, r') => (.request :: evs ++ [.continued], r')
    | (evs, .endToken, r') => (.request :: evs ++ [.ended], r')
    | (evs, .rerequest, r') =>
      let (more, r'') := tokenRun td r' rest
      (.request :: evs ++ more, r'')

def Ev.isRequest : Ev → Bool
  | .request => true
  | _ => false

def requests (evs : List Ev) : Nat := evs.countP Ev.isRequest

/-- `ApplyTaskResult` / `ApplyTaskDataOutput`: for each DECLARED name, in order, store the supplied value if there
is one (first match of the name among the supplied pairs) -/
def restrictTo {α β : Type} (declared : List String) (set : α → String → β → α) (store : α)
    (supplied : List (String × β)) : α :=
  declared.foldl (fun st name =>
    match supplied.find? (·.1 == name) with
    | some (_, v) => set st name v
    | none => st) store

/-- attempts made so far by the token (`f.retry == nil`: none) -/
def attemptsOf : Option Retry → Int
  | none => 0
  | some r => r.attempts

/-- `f` failures answered with the retry handler `n`, then a success -/
def failThenOk (n : Int) (f : Nat) : List Ans := List.replicate f (.err (.mode 1 n)) ++ [.ok]

/-- every retry handler in the history carries a bounded count `≤ n` (and not the sentinel) -/
def BoundedBy (n : Int) (answers : List Ans) : Prop :=
  ∀ k, Ans.err (.mode 1 k) ∈ answers → k ≠ -1 ∧ k ≤ n

/-- the value supplied under a name -/
def supplied? (supplied : List (String × Int)) (k : String) : Option Int := (supplied.find? (·.1 == k)).map (·.2)

end Bpmn.Model.TaskTrace
