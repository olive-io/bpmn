import Bpmn.Spec.Causal
/-!
# The sending discipline of the flow goroutines (flow.go), over one tracer

What `tracer_segment` / `tracer_sender_order` (`Props/C09`) give for the process's tracer is used here in this form: every `Send`
returns only when the broadcaster has taken the trace, so (1) the global order (`log`) grows by one trace per
completed `Send`, (2) a goroutine's next `Send` begins after its previous one is in the log (program order), and
(3) whatever a goroutine does after a `Send` — in particular starting other goroutines — happens after that trace is
in the log. The model below is the part of flow.go that decides which flow-level traces are sent in which order:

* `flow.Start`: `go func() { Send(NewFlowTrace{f}); Send(VisitTrace{current}); for { … } }`
* `flowAction` with sequence flows: `handleSequenceFlow` sends `LeaveTrace{current}`, `VisitTrace{target}`;
  `handleAdditionalSequenceFlow` draws the ids of the additional flows; then `Send(FlowTrace{source, [f, g₁ … g_k]})`,
  and only then `handle(ctx)` starts the goroutines of `g₁ … g_k` (`flow.go`, the comment calls this order
  "extremely important");
* `completeAction` / `noAction` / no effective flow / terminate message: `Send(TerminationTrace{f})`, return;
* cancellation (`case <-ctx.Done()` of the flow's `select`): `Send(CancellationFlowTrace{f})`, return;
* `ExitMode`, nowhere to flow, cancellation while waiting for an error handler: return without a final flow-level
  trace (what such a goroutine sends last is a trace the grammar does not constrain: `quit` logs `other`);
* a flow created by something other than a `FlowTrace` announcement (start event, boundary / catch event flow):
  `root`;
* `CeaseFlowTrace`: sent by the completion monitor after `flowWaitGroup.Wait()` returned, i.e. when every flow
  goroutine has finished (`Start` does `flowWaitGroup.Add(1)` before `go`, the goroutine `Done()`s on return).
* node goroutines (tasks, gateways, monitors) send traces the grammar does not constrain: `other`.

Ids come from `idGenerator.New()`; the model allocates them from a counter (C20 is the uniqueness property).
Every step but `root` appends exactly one trace to `log`. The scheduler (`List FAct`) is arbitrary; steps that are not enabled
are skipped.
-/
namespace Bpmn.Model.FlowOrder
open Bpmn.Spec

/-- where a flow goroutine is in its program -/
inductive Phase
  | none_                               -- id not allocated
  | born (n : Nat)                      -- goroutine started at node n; next: `NewFlowTrace`
  | fresh (n : Nat)                     -- next: `VisitTrace n`
  | at (n : Nat)                        -- in the `select` at node n
  | moved (n n' : Nat) (ts : List Nat)  -- sent `LeaveTrace n`; next: `VisitTrace n'`; `ts`: nodes the additional flows start at
  | arrived (n n' : Nat) (ts : List Nat) -- sent `VisitTrace n'`; next: `FlowTrace n [f, new ids…]`, then start them
  | dead
deriving DecidableEq, Repr

structure FSt where
  phase : Nat → Phase := fun _ => .none_
  nflow : Nat := 0
  log : List Trace := []
  ceased : Bool := false

def finit : FSt := {}

inductive FAct
  | root (n : Nat)                          -- a flow is created outside any announcement and started at node n
  | send (f : Nat)                          -- flow f's next deterministic `Send` (newflow / visit / visit target / FlowTrace)
  | move (f : Nat) (n' : Nat) (ts : List Nat) -- flow f at its node got a flowAction: target n', additional flows at ts
  | term (f : Nat)                          -- `TerminationTrace`, return
  | die (f : Nat)                           -- `CancellationFlowTrace`, return
  | quit (f : Nat)                          -- return without a final flow-level trace
  | other                                   -- a trace the grammar does not constrain, from any goroutine
  | cease                                   -- the completion monitor
deriving Repr

def FSt.setPhase (s : FSt) (f : Nat) (p : Phase) : FSt :=
  { s with phase := fun j => if j = f then p else s.phase j }

/-- allocate the additional flows announced by one `FlowTrace`: ids `nflow, nflow+1, …`, each `born` at its node -/
def FSt.spawn (s : FSt) : List Nat → FSt
  | [] => s
  | t :: ts => ({ s.setPhase s.nflow (.born t) with nflow := s.nflow + 1 } : FSt).spawn ts

def allDead (s : FSt) : Bool :=
  (List.range s.nflow).all (fun f => s.phase f == .dead)

def fstep (s : FSt) : FAct → Option FSt
  | .root n =>
    if s.ceased then none
    else some { s.setPhase s.nflow (.born n) with nflow := s.nflow + 1 }
  | .send f =>
    match s.phase f with
    | .born n => some { s.setPhase f (.fresh n) with log := s.log ++ [.newflow f] }
    | .fresh n => some { s.setPhase f (.at n) with log := s.log ++ [.visit n] }
    | .moved n n' ts => some { s.setPhase f (.arrived n n' ts) with log := s.log ++ [.visit n'] }
    | .arrived n n' ts =>
      let ids := (List.range ts.length).map (· + s.nflow)
      some (({ s.setPhase f (.at n') with log := s.log ++ [.flow n (f :: ids)] } : FSt).spawn ts)
    | _ => none
  | .move f n' ts =>
    match s.phase f with
    | .at n => some { s.setPhase f (.moved n n' ts) with log := s.log ++ [.leave n] }
    | _ => none
  | .term f =>
    match s.phase f with
    | .at _ => some { s.setPhase f .dead with log := s.log ++ [.term f] }
    | _ => none
  | .die f =>
    match s.phase f with
    | .at _ => some { s.setPhase f .dead with log := s.log ++ [.cancel f] }
    | _ => none
  | .quit f =>
    match s.phase f with
    | .at _ => some { s.setPhase f .dead with log := s.log ++ [.other] }
    | _ => none
  | .other => some { s with log := s.log ++ [.other] }
  | .cease =>
    if !s.ceased && allDead s then some { s with log := s.log ++ [.cease], ceased := true } else none

def fstep' (s : FSt) (a : FAct) : FSt := (fstep s a).getD s

def frun (s : FSt) (sched : List FAct) : FSt := sched.foldl fstep' s

end Bpmn.Model.FlowOrder
