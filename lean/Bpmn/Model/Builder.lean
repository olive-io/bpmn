/-
Model of schema/builder.go: `ProcessBuilder` (`NewProcessBuilder`, `AddActivity`, `link`, `Out`),
`DefinitionBuilder` (`NewDefinitionsBuilder`, `AddProcess`, `AutoLayout`, `Out`) and the layout
(`collectProcessFlowNodes`, `collectProcessFlowEdges`, `computeFlowNodeLevels`, `computeFlowNodeRows`,
`desiredRow`, `buildAlignedWaypoints`, `buildProcessLayout`).

A port of what the Go code DOES:
* ids: every generated id is `prefix ++ "_" ++ RandBytes(7)`. `RandBytes` is the oracle `o : Nat → Nat`
  (the k-th call of the run returns token `o k`); nothing in the model assumes `o` injective — the theorems do.
* `link` updates the cursor object (`ptr`, the caller's pointer) and, separately, the copy stored in the process,
  which it looks up with `FindBy(ExactId …)`: first hit of a scan over the process itself, then the flow
  elements in the order of the generated struct fields (`Kind.rank`), sequence flows included.
* `AddActivity` stores the activity only for the types named in its type switch; any other `ActivityInterface`
  is linked but NOT stored. WHICH types the switch names is a fact extracted from the source on every run
  (`Bpmn.Gen.C19.addActivityStored`); the model takes it as the parameter `st : Kind → Bool` (`storedBy names`).
* layout arithmetic: Go uses float64. Coordinates here are `Int` in units of 1/`scale`; on the configuration
  grid of the harness (all values multiples of 1/4, scale 8) every Go intermediate is exactly representable, `/ 2`
  is exact, and `math.Abs(a-b) < 0.001` is `|a-b| * 1000 < scale`. `desiredRow` (a float quotient of small
  integers) is the pair (total, count); comparisons cross-multiply and `math.Round` is `(2t+c)/(2c)`.
-/
namespace Bpmn.Model.Builder

/-- the prefixes builder.go puts in front of `RandBytes(7)` -/
inductive Pfx
  | definitions | process | collaboration | participant | diagram | plane | shape | edge | event | activity | flow
deriving DecidableEq, Repr

inductive Id
  | gen (p : Pfx) (tok : Nat)
  | preset (n : Nat)
deriving DecidableEq, Repr

inductive Kind
  | startEvent | endEvent
  | task | businessRuleTask | userTask | callActivity | manualTask | sendTask | scriptTask | serviceTask
  | receiveTask | subProcess
  | adHocSubProcess | transaction | activity
deriving DecidableEq, Repr

/-- Go type name of a kind -/
def Kind.goName : Kind → String
  | .task => "Task" | .businessRuleTask => "BusinessRuleTask" | .userTask => "UserTask"
  | .callActivity => "CallActivity" | .manualTask => "ManualTask" | .sendTask => "SendTask"
  | .scriptTask => "ScriptTask" | .serviceTask => "ServiceTask" | .receiveTask => "ReceiveTask"
  | .subProcess => "SubProcess" | .adHocSubProcess => "AdHocSubProcess" | .transaction => "Transaction"
  | .activity => "Activity" | .startEvent => "StartEvent" | .endEvent => "EndEvent"

/-- the type switch of `AddActivity`, given the type names it lists: does it append an activity of this kind to
a field of the process? (Start and end events never go through `AddActivity`; the builder stores them itself.) -/
def storedBy (names : List String) : Kind → Bool := fun k => names.contains k.goName

/-- position of the kind's field in `(*Process).FlowElements()` / `(*Process).FindBy` -/
def Kind.rank : Kind → Nat
  | .adHocSubProcess => 0 | .businessRuleTask => 2 | .callActivity => 3 | .endEvent => 10
  | .manualTask => 18 | .receiveTask => 20 | .scriptTask => 21 | .sendTask => 22
  | .serviceTask => 24 | .startEvent => 25 | .subProcess => 27 | .task => 28 | .transaction => 29
  | .userTask => 30 | .activity => 31

/-- position of `SequenceFlowField` in the same scan -/
def flowRank : Nat := 23

/-- `flowNodeDefaultSize`, in plain units -/
def Kind.size : Kind → Nat × Nat
  | .startEvent | .endEvent => (36, 36)
  | .subProcess | .adHocSubProcess | .transaction => (120, 100)
  | _ => (100, 80)

structure Node where
  id : Id
  kind : Kind
  incoming : List Id
  outgoing : List Id
deriving DecidableEq, Repr

structure Flow where
  id : Id
  src : Id
  tgt : Id
deriving DecidableEq, Repr

/-- a `schema.Process`; `nodes` in insertion order (each struct field keeps insertion order) -/
structure Proc where
  id : Id
  executable : Option Bool
  nodes : List Node
  flows : List Flow
deriving DecidableEq, Repr

/-- `ProcessBuilder`: the process plus the cursor object (`ptr`: its id and ITS OWN outgoing list) -/
structure PB where
  proc : Proc
  ptrId : Id
  ptrOut : List Id
deriving DecidableEq, Repr

/-! ### flow element order -/

/-- insert in front of the first element whose field rank is not smaller -/
def insertByRank (n : Node) : List Node → List Node
  | [] => [n]
  | m :: ms => if n.kind.rank ≤ m.kind.rank then n :: m :: ms else m :: insertByRank n ms

/-- stable sort of the nodes by field rank (insertion order is kept inside one struct field) -/
def sortByRank : List Node → List Node
  | [] => []
  | n :: ns => insertByRank n (sortByRank ns)

/-- `process.FlowElements()` restricted to flow nodes -/
def flowNodes (p : Proc) : List Node := sortByRank p.nodes

/-! ### ProcessBuilder -/

/-- the flow node `builder.FindBy(ExactId(id))` yields, if the first hit of the scan is a flow node -/
def findNode (p : Proc) (id : Id) : Option Node :=
  if p.id = id then none
  else match (flowNodes p).find? (fun n => n.id = id) with
    | none => none
    | some nd => if p.flows.any (fun f => f.id = id) && flowRank < nd.kind.rank then none else some nd

def modifyFirst (q : Node → Bool) (f : Node → Node) : List Node → List Node
  | [] => []
  | n :: ns => if q n then f n :: ns else n :: modifyFirst q f ns

/-- `vv.SetOutgoings(*outgoings)` on what `FindBy` found -/
def setOutgoing (p : Proc) (id : Id) (out : List Id) : Proc :=
  match findNode p id with
  | none => p
  | some nd =>
    { p with nodes := modifyFirst (fun n => n.id = id && n.kind.rank = nd.kind.rank)
                        (fun n => { n with outgoing := out }) p.nodes }

/-- `NewProcessBuilder` at call counter `n`: two `RandBytes` calls -/
def newPB (o : Nat → Nat) (n : Nat) : PB × Nat :=
  let pid := Id.gen .process (o n)
  let sid := Id.gen .event (o (n + 1))
  ({ proc := { id := pid, executable := none, nodes := [⟨sid, .startEvent, [], []⟩], flows := [] },
     ptrId := sid, ptrOut := [] }, n + 2)

/-- `link(node)` for a node that arrives with empty incoming/outgoing lists; returns the builder (cursor moved)
and the node as the caller's object now looks (incoming filled in). One `RandBytes` call. -/
def link (o : Nat → Nat) (n : Nat) (b : PB) (id : Id) (kind : Kind) : PB × Node × Nat :=
  let sid := Id.gen .flow (o n)
  let out := b.ptrOut ++ [sid]
  let p1 := setOutgoing b.proc b.ptrId out
  let node : Node := ⟨id, kind, [sid], []⟩
  ({ proc := { p1 with flows := p1.flows ++ [⟨sid, b.ptrId, id⟩] }, ptrId := id, ptrOut := [] }, node, n + 1)

/-- `AddActivity(act)`; `preset = none` when the activity has no id (one more `RandBytes` call) -/
def addActivity (st : Kind → Bool) (o : Nat → Nat) (n : Nat) (b : PB) (kind : Kind) (preset : Option Nat) : PB × Nat :=
  let (id, n1) := match preset with
    | some p => (Id.preset p, n)
    | none => (Id.gen .activity (o n), n + 1)
  let (b1, node, n2) := link o n1 b id kind
  if st kind then ({ b1 with proc := { b1.proc with nodes := b1.proc.nodes ++ [node] } }, n2)
  else (b1, n2)

/-- `Out()`: end event, link, store, hand out the process, reset the builder (`NewProcessBuilder` again) -/
def outPB (o : Nat → Nat) (n : Nat) (b : PB) : Proc × PB × Nat :=
  let eid := Id.gen .event (o n)
  let (b1, node, n1) := link o (n + 1) b eid .endEvent
  let p := { b1.proc with nodes := b1.proc.nodes ++ [node] }
  let (b2, n2) := newPB o n1
  (p, b2, n2)

/-- a whole `AddActivity` script on one builder -/
def addAll (st : Kind → Bool) (o : Nat → Nat) : Nat → PB → List (Kind × Option Nat) → PB × Nat
  | n, b, [] => (b, n)
  | n, b, (k, pre) :: rest =>
    let (b1, n1) := addActivity st o n b k pre
    addAll st o n1 b1 rest

/-- `NewProcessBuilder(); AddActivity…; Out()` starting at call counter `n` -/
def buildProcess (st : Kind → Bool) (o : Nat → Nat) (n : Nat) (acts : List (Kind × Option Nat)) : Proc × Nat :=
  let (b, n1) := newPB o n
  let (b2, n2) := addAll st o n1 b acts
  let (p, _, n3) := outPB o n2 b2
  (p, n3)

/-! ### layout -/

structure Cfg where
  sx : Int
  sy : Int
  cg : Int
  rg : Int
  pg : Int
  /-- units per 1.0 -/
  scale : Nat
deriving DecidableEq, Repr

structure LNode where
  id : Id
  order : Nat
  w : Int
  h : Int
deriving DecidableEq, Repr

structure LEdge where
  id : Id
  src : Id
  tgt : Id
deriving DecidableEq, Repr

/-- `collectProcessFlowNodes`: flow elements order, first occurrence of an id wins, `order` = position -/
def collectNodesAux (scale : Nat) : List Node → List LNode → List LNode
  | [], acc => acc
  | n :: ns, acc =>
    if acc.any (fun m => m.id = n.id) then collectNodesAux scale ns acc
    else collectNodesAux scale ns
      (acc ++ [⟨n.id, acc.length, (n.kind.size.1 * scale : Nat), (n.kind.size.2 * scale : Nat)⟩])

def collectNodes (scale : Nat) (p : Proc) : List LNode := collectNodesAux scale (flowNodes p) []

/-- `collectProcessFlowEdges` -/
def collectEdges (p : Proc) : List LEdge := p.flows.map (fun f => ⟨f.id, f.src, f.tgt⟩)

/-- a Go `map[string]T` as an association list; the newest binding of a key is the one in force -/
abbrev Map (β : Type) := List (Id × β)

def upd {β : Type} (m : Map β) (i : Id) (v : β) : Map β := (i, v) :: m

/-- `levels[id]` (0 for a missing key) -/
def lvOf (m : Map Nat) (i : Id) : Nat := (m.lookup i).getD 0

/-- `rows[id]` with the `ok` flag -/
def rowOf (m : Map Nat) (i : Id) : Option Nat := m.lookup i

/-- one `for _, edge := range edges` sweep of `computeFlowNodeLevels` -/
def relaxPass (known : Id → Bool) : List LEdge → Map Nat → Bool → Map Nat × Bool
  | [], lv, u => (lv, u)
  | e :: es, lv, u =>
    if known e.src && known e.tgt then
      if lvOf lv e.src + 1 > lvOf lv e.tgt then relaxPass known es (upd lv e.tgt (lvOf lv e.src + 1)) true
      else relaxPass known es lv u
    else relaxPass known es lv u

/-- the outer loop: at most `fuel = len(nodes)` sweeps, stop after a sweep without update -/
def relax (known : Id → Bool) (edges : List LEdge) : Nat → Map Nat → Map Nat
  | 0, lv => lv
  | f + 1, lv =>
    let r := relaxPass known edges lv false
    if r.2 then relax known edges f r.1 else r.1

def computeLevels (nodes : List LNode) (edges : List LEdge) : Map Nat :=
  relax (fun i => nodes.any (fun n => n.id = i)) edges nodes.length []

/-- `desiredRow`: (total, count) over the predecessors that already have a row; count 0 means 0 -/
def desired (edges : List LEdge) (rows : Map Nat) (id : Id) : Nat × Nat :=
  let rs := ((edges.filter (fun e => e.tgt = id)).map (fun e => e.src)).filterMap (rowOf rows)
  (rs.sum, rs.length)

/-- `a < b` as quotients (x/0 read as 0) -/
def dLess (a b : Nat × Nat) : Bool :=
  match a.2, b.2 with
  | 0, 0 => false
  | 0, _ => 0 < b.1
  | _, 0 => false
  | ca, cb => a.1 * cb < b.1 * ca

def dEq (a b : Nat × Nat) : Bool := !dLess a b && !dLess b a

/-- `int(math.Round(x))` for x = t/c ≥ 0 -/
def dRound (a : Nat × Nat) : Nat := if a.2 = 0 then 0 else (2 * a.1 + a.2) / (2 * a.2)

/-- the `less` of the `sort.Slice` call -/
def nodeLess (edges : List LEdge) (rows : Map Nat) (a b : LNode) : Bool :=
  let l := desired edges rows a.id
  let r := desired edges rows b.id
  if dEq l r then a.order < b.order else dLess l r

def insertSorted (lt : LNode → LNode → Bool) (x : LNode) : List LNode → List LNode
  | [] => [x]
  | y :: ys => if lt x y then x :: y :: ys else y :: insertSorted lt x ys

/-- the result of `sort.Slice` (unique, the key (desired, order) being a strict total order) -/
def sortNodes (lt : LNode → LNode → Bool) : List LNode → List LNode
  | [] => []
  | x :: xs => insertSorted lt x (sortNodes lt xs)

/-- `for { if _, exists := occupied[r]; !exists { break }; r++ }` -/
def firstFree : Nat → Nat → List Nat → Nat
  | 0, r, _ => r
  | f + 1, r, occ => if occ.contains r then firstFree f (r + 1) occ else r

/-- the placement loop of one level -/
def placeLevel (edges : List LEdge) : List LNode → Map Nat → List Nat → Map Nat
  | [], rows, _ => rows
  | nd :: rest, rows, occ =>
    let r := firstFree (occ.length + 1) (dRound (desired edges rows nd.id)) occ
    placeLevel edges rest (upd rows nd.id r) (r :: occ)

/-- `for level := 0; level <= maxLevel; level++` — `todo` levels starting at `level` -/
def rowsLoop (nodes : List LNode) (lv : Map Nat) (edges : List LEdge) : Nat → Nat → Map Nat → Map Nat
  | 0, _, rows => rows
  | todo + 1, level, rows =>
    let levelNodes := nodes.filter (fun n => lvOf lv n.id = level)
    let sorted := sortNodes (nodeLess edges rows) levelNodes
    rowsLoop nodes lv edges todo (level + 1) (placeLevel edges sorted rows [])

def maxLevel (nodes : List LNode) (lv : Map Nat) : Nat := nodes.foldl (fun m n => max m (lvOf lv n.id)) 0

def computeRows (nodes : List LNode) (lv : Map Nat) (edges : List LEdge) : Map Nat :=
  rowsLoop nodes lv edges (maxLevel nodes lv + 1) 0 []

structure Shape where
  id : Id
  elem : Id
  x : Int
  y : Int
  w : Int
  h : Int
deriving DecidableEq, Repr

structure Edge where
  id : Id
  elem : Id
  src : Id
  tgt : Id
  wps : List (Int × Int)
deriving DecidableEq, Repr

/-- `buildAlignedWaypoints` on the bounds of source and target -/
def waypoints (scale : Nat) (s t : Shape) : List (Int × Int) :=
  let startX := s.x + s.w
  let startY := s.y + s.h / 2
  let endX := t.x
  let endY := t.y + t.h / 2
  if (startY - endY).natAbs * 1000 < scale then [(startX, startY), (endX, endY)]
  else
    let midX := (startX + endX) / 2
    [(startX, startY), (midX, startY), (midX, endY), (endX, endY)]

/-- position of one node (the first loop of `buildProcessLayout`); the shape id is filled in later -/
def position (cfg : Cfg) (startY : Int) (lv : Map Nat) (rows : Map Nat) (n : LNode) : Shape :=
  let level := lvOf lv n.id
  let row := (rowOf rows n.id).getD 0
  { id := n.id, elem := n.id, x := cfg.sx + (level : Int) * cfg.cg,
    y := startY + (row : Int) * cfg.rg - n.h / 2, w := n.w, h := n.h }

/-- the second loop: one `Shape_` id per node, `RandBytes` calls `n, n+1, …` -/
def nameShapes (o : Nat → Nat) : Nat → List Shape → List Shape
  | _, [] => []
  | n, s :: ss => { s with id := Id.gen .shape (o n) } :: nameShapes o (n + 1) ss

/-- the third loop: one edge per flow whose two ends have bounds; one `Edge_` id each -/
def buildEdges (o : Nat → Nat) (scale : Nat) (bounds : List Shape) : Nat → List LEdge → List Edge × Nat
  | n, [] => ([], n)
  | n, e :: es =>
    match bounds.find? (fun s => s.elem = e.src), bounds.find? (fun s => s.elem = e.tgt) with
    | some s, some t =>
      let r := buildEdges o scale bounds (n + 1) es
      (⟨Id.gen .edge (o n), e.id, e.src, e.tgt, waypoints scale s t⟩ :: r.1, r.2)
    | _, _ => buildEdges o scale bounds n es

def minProcessHeight (scale : Nat) : Int := (160 * scale : Nat)

/-- `buildProcessLayout`: shapes, edges, processHeight, next call counter -/
def layoutProcess (o : Nat → Nat) (n : Nat) (cfg : Cfg) (startY : Int) (p : Proc) :
    List Shape × List Edge × Int × Nat :=
  let nodes := collectNodes cfg.scale p
  if nodes.isEmpty then ([], [], minProcessHeight cfg.scale, n)
  else
    let edges := collectEdges p
    let lv := computeLevels nodes edges
    let rows := computeRows nodes lv edges
    let pos := nodes.map (position cfg startY lv rows)
    let shapes := nameShapes o n pos
    let (es, n2) := buildEdges o cfg.scale pos (n + nodes.length) edges
    let maxBottom := pos.foldl (fun m s => if s.y + s.h > m then s.y + s.h else m) startY
    let h := maxBottom - startY
    (shapes, es, (if h < minProcessHeight cfg.scale then minProcessHeight cfg.scale else h), n2)

/-- the `for i := range builder.ProcessField` loop of `AutoLayout` -/
def layoutAll (o : Nat → Nat) (cfg : Cfg) : Nat → Int → List Proc → List Shape × List Edge × Nat
  | n, _, [] => ([], [], n)
  | n, y, p :: ps =>
    let (ss, es, h, n1) := layoutProcess o n cfg y p
    let (ss', es', n2) := layoutAll o cfg n1 (y + h + cfg.pg) ps
    (ss ++ ss', es ++ es', n2)

/-! ### DefinitionBuilder -/

structure Diagram where
  id : Id
  plane : Id
  planeElem : Id
  shapes : List Shape
  edges : List Edge
deriving DecidableEq, Repr

structure Defs where
  id : Id
  procs : List Proc
  collab : Option Id
  /-- (participant id, processRef) -/
  parts : List (Id × Id)
  diagram : Option Diagram
deriving DecidableEq, Repr

def newDB (o : Nat → Nat) (n : Nat) : Defs × Nat :=
  ({ id := Id.gen .definitions (o n), procs := [], collab := none, parts := [], diagram := none }, n + 1)

def nameParts (o : Nat → Nat) : Nat → List Proc → List (Id × Id) × Nat
  | n, [] => ([], n)
  | n, p :: ps => let r := nameParts o (n + 1) ps; ((Id.gen .participant (o n), p.id) :: r.1, r.2)

/-- `AddProcess(p)` for a process that has an id -/
def addProcess (o : Nat → Nat) (n : Nat) (d : Defs) (p : Proc) : Defs × Nat :=
  let p := if d.procs.isEmpty then { p with executable := some true } else p
  let procs := d.procs ++ [p]
  if procs.length > 1 then
    let (collab, n1) := match d.collab with
      | some c => (c, n)
      | none => (Id.gen .collaboration (o n), n + 1)
    let (ps, n2) := nameParts o n1 (procs.drop d.parts.length)
    ({ d with procs := procs, collab := some collab, parts := d.parts ++ ps }, n2)
  else ({ d with procs := procs }, n)

/-- `AutoLayout(cfg)` -/
def autoLayout (o : Nat → Nat) (n : Nat) (cfg : Cfg) (d : Defs) : Defs × Nat :=
  match d.procs with
  | [] => ({ d with diagram := none }, n)
  | p0 :: _ =>
    let did := Id.gen .diagram (o n)
    let pid := Id.gen .plane (o (n + 1))
    let elem := match d.collab with
      | some c => if d.procs.length > 1 then c else p0.id
      | none => p0.id
    let (ss, es, n2) := layoutAll o cfg (n + 2) cfg.sy d.procs
    ({ d with diagram := some ⟨did, pid, elem, ss, es⟩ }, n2)

/-! ### the script level: what the harness drives -/

inductive Op
  | newpb
  | act (k : Kind) (preset : Option Nat)
  /-- `db.AddProcess(*pb.Out())` -/
  | out
  | layout (cfg : Cfg)
  /-- `db.Out()` -/
  | dbout
deriving DecidableEq, Repr

structure World where
  n : Nat
  db : Defs
  pb : PB
  result : Option Defs
deriving Repr

/-- `db := NewDefinitionsBuilder(); pb := NewProcessBuilder()` -/
def World.start (o : Nat → Nat) : World :=
  let (d, n1) := newDB o 0
  let (b, n2) := newPB o n1
  { n := n2, db := d, pb := b, result := none }

def World.step (st : Kind → Bool) (o : Nat → Nat) (w : World) : Op → World
  | .newpb => let (b, n) := newPB o w.n; { w with pb := b, n := n }
  | .act k pre => let (b, n) := addActivity st o w.n w.pb k pre; { w with pb := b, n := n }
  | .out =>
    let (p, b, n1) := outPB o w.n w.pb
    let (d, n2) := addProcess o n1 w.db p
    { w with pb := b, db := d, n := n2 }
  | .layout cfg => let (d, n) := autoLayout o w.n cfg w.db; { w with db := d, n := n }
  | .dbout => let (d, n) := newDB o w.n; { w with result := some w.db, db := d, n := n }

def World.run (st : Kind → Bool) (o : Nat → Nat) (ops : List Op) : World :=
  ops.foldl (World.step st o) (World.start o)

/-! ### the C19 predicates, executable (of these the driver evaluates `disjoint` and `onBorder` on the implementation's
output) -/

def Proc.ids (p : Proc) : List Id := p.id :: (p.nodes.map (·.id) ++ p.flows.map (·.id))

def Defs.ids (d : Defs) : List Id :=
  d.id :: (d.procs.flatMap Proc.ids ++ d.collab.toList ++ d.parts.map (·.1) ++
    (match d.diagram with
     | none => []
     | some g => g.id :: g.plane :: (g.shapes.map (·.id) ++ g.edges.map (·.id))))

/-- both ends of the flow exist and list it -/
def flowOk (p : Proc) (f : Flow) : Bool :=
  p.nodes.any (fun s => s.id = f.src && s.outgoing.contains f.id) &&
  p.nodes.any (fun t => t.id = f.tgt && t.incoming.contains f.id)

def procWellFormed (p : Proc) : Bool :=
  p.flows.all (flowOk p) &&
  p.nodes.all (fun n => (n.kind != .startEvent || n.incoming.isEmpty) && (n.kind != .endEvent || n.outgoing.isEmpty))

/-- closed rectangles with disjoint interiors -/
def disjoint (a b : Shape) : Bool :=
  a.x + a.w ≤ b.x || b.x + b.w ≤ a.x || a.y + a.h ≤ b.y || b.y + b.h ≤ a.y

/-- the point lies on the border of the shape -/
def onBorder (s : Shape) (pt : Int × Int) : Bool :=
  s.x ≤ pt.1 && pt.1 ≤ s.x + s.w && s.y ≤ pt.2 && pt.2 ≤ s.y + s.h &&
  (pt.1 = s.x || pt.1 = s.x + s.w || pt.2 = s.y || pt.2 = s.y + s.h)

/-- the token walk of a chain: follow the single outgoing flow from the start event; the ids of the visited
activities (everything that is neither start nor end), `fuel` steps -/
def walk (p : Proc) : Nat → Id → List Id
  | 0, _ => []
  | fuel + 1, cur =>
    match p.nodes.find? (fun n => n.id = cur) with
    | none => []
    | some nd =>
      let here := if nd.kind = .startEvent || nd.kind = .endEvent then [] else [nd.id]
      match nd.outgoing with
      | [f] => match p.flows.find? (fun g => g.id = f) with
        | some g => here ++ walk p fuel g.tgt
        | none => here
      | _ => here

end Bpmn.Model.Builder
