/-
Model of /repo/pkg/id: the fallback generator (`fallback.go`) and the sno generator (`sno.go`, which embeds
`github.com/muyo/sno.Generator`; `SnoGenerator.New` is `g.Generator.New(0)`).

The sno part is a port of `sno.Generator.New` (generator.go of muyo/sno v1.2.1) at the granularity of its atomic
operations: every `atomic.Load/Add/Store/CompareAndSwap`, the clock read `snotime()`, and the lock/unlock of the
regression mutex is one step of one thread; a schedule is an explicit list of events (`Ev`): which thread moves,
when the 4 ms clock advances, when the overflow ticker goroutine runs, when the generator is snapshotted and
replaced by the generator restored from that snapshot. Nothing is repaired: with `ser = false` (no lock around
`SnoGenerator.New`, as the code was before repair 5994157) the model admits duplicate ids.

Abstractions (stated, not proved):
* the wall clock is a counter of 4 ms units that only moves forward (`Ev.tick`); clock regressions are out of scope
  of the theorems, the regression branch is nevertheless ported because it is reachable without any regression
  (a failed CAS falls through into it);
* `seq` is a `uint32` in Go; the model does not wrap it (a wrap needs 2^32 − 65536 failed attempts within one tick);
* the body of `seqOverflowLoop` (one ticker firing) is one step; a thread waiting on the overflow condition may
  re-check it at any time (a superset of the wake-ups `sync.Cond` allows);
* `meta` is always 0 (`SnoGenerator.New` passes 0) and is left out of the id;
* a snapshot is taken between draws (no `New` in flight), which is how /repo uses it (`Snapshot()` then
  `RestoreIdGenerator` in another run of the program); the JSON round trip of the snapshot is the identity.
-/
namespace Bpmn.Model.IdGen

/-! ## Fallback generator (`pkg/id/fallback.go`) -/

/-- The prefix of a fallback generator: the creation-time clock reading (`time.Now().UnixNano()`) and, when
`NewFallbackGenerator` mixes one in, the value of the package-level atomic counter of fallback generators
(`serial = 0`: no serial component — the counter is incremented before use, so a real serial is ≥ 1).
Rendered `<clock base 36>` or `<clock base 36>.<serial base 36>`. -/
structure FbPrefix where
  clock  : Nat
  serial : Nat
deriving DecidableEq, Repr

instance (n : Nat) : OfNat FbPrefix n := ⟨⟨n, 0⟩⟩

/-- `"fallback-" + prefix + "-" + n(decimal)` as the data it encodes (the harness checks that re-encoding gives
back the string, so the data determine the string and conversely). -/
structure FbId where
  pfx : FbPrefix
  n   : Nat
deriving DecidableEq, Repr

def u64 : Nat := 18446744073709551616

inductive FbPc where
  | idle
  | loaded (v : Nat)   -- only reachable when the increment is NOT atomic
deriving DecidableEq, Repr

/-- update of a per-thread table -/
def upd {α : Type} (f : Nat → α) (i : Nat) (v : α) : Nat → α := fun j => if j = i then v else f j

structure FbGen where
  pfx     : FbPrefix       -- fixed at creation
  counter : Nat            -- uint64
  pcs     : Nat → FbPc
  out     : List FbId      -- ids handed out, newest first

/-- a fallback generator with prefix `p` -/
def fbNew (p : FbPrefix) : FbGen := { pfx := p, counter := 0, pcs := fun _ => .idle, out := [] }

/-- `NewFallbackGenerator()` called once per entry of `gs` = (clock reading, schedule of draws on that generator), in
the order of the atomic increments of the package-level counter `fallbackGenerators` (value so far: `created`).
The clock readings are arbitrary — in particular equal when generators are created within one nanosecond.
`withSerial = true`: the prefix is (clock, serial) with `serial := atomic.AddUint64(&fallbackGenerators, 1)`;
`withSerial = false`: the prefix is the clock reading alone. -/
def fbProgram (withSerial : Bool) (created : Nat) : List (Nat × List Nat) → List (FbPrefix × List Nat)
  | [] => []
  | (c, s) :: rest =>
    if withSerial then
      let n := (created + 1) % u64
      (⟨c, n⟩, s) :: fbProgram withSerial n rest
    else (⟨c, 0⟩, s) :: fbProgram withSerial created rest

/-- One step of thread `i` inside `fallbackGenerator.New`. `atomic = true`: `atomic.AddUint64(&g.counter, 1)` is a
single step. `atomic = false` (the counter incremented by a plain load and store): two steps. -/
def fbStep (atomic : Bool) (g : FbGen) (i : Nat) : FbGen :=
  if atomic then
    let n := (g.counter + 1) % u64
    { g with counter := n, out := ⟨g.pfx, n⟩ :: g.out }
  else
    match g.pcs i with
    | .idle => { g with pcs := upd g.pcs i (.loaded g.counter) }
    | .loaded v =>
      let n := (v + 1) % u64
      { g with counter := n, pcs := upd g.pcs i .idle, out := ⟨g.pfx, n⟩ :: g.out }

/-- a schedule is the list of thread numbers in the order they move -/
def fbRun (atomic : Bool) (g : FbGen) (sched : List Nat) : FbGen := sched.foldl (fbStep atomic) g

/-! ## sno generator -/

/-- a decoded sno id: 39 bit time (4 ms units), tick-tock bit, 16 bit partition, 16 bit sequence -/
structure SnoId where
  time : Nat
  tick : Nat
  part : Nat
  seq  : Nat
deriving DecidableEq, Repr

/-- the shared fields of `sno.Generator` -/
structure Gen where
  part     : Nat
  seqMin   : Nat
  seqMax   : Nat
  wallHi   : Nat
  wallSafe : Nat
  seq      : Nat
  drifts   : Nat
deriving DecidableEq, Repr

/-- `newGeneratorFromDefaults`: everything zero, `seqMax = MaxSequence` -/
def freshGen (part : Nat) : Gen :=
  { part, seqMin := 0, seqMax := 65535, wallHi := 0, wallSafe := 0, seq := 0, drifts := 0 }

/-- `genPartition`: `seed + uint16(n)` in uint16 arithmetic, `n` the value of an atomic counter -/
def genPartition (seed n : Nat) : Nat := (seed + n) % 65536

/-- where a thread is inside `Generator.New` -/
inductive Pc where
  | idle                         -- not inside New
  | start                        -- at `retry:`
  | gotHi  (hi : Nat)            -- after `atomic.LoadUint64(&g.wallHi)`
  | gotNow (hi now : Nat)        -- after `snotime()`
  | added  (now s : Nat)         -- after `atomic.AddUint32(&g.seq, 1)` returned `s ≤ seqMax`
  | ovf                          -- sequence overflow: counted in `seqOverflowCount`, in the cond loop
  | casOk  (now : Nat)           -- `CompareAndSwapUint64(&g.wallHi, wallHi, wallNow)` succeeded
  | reset  (now : Nat)           -- after `atomic.StoreUint32(&g.seq, g.seqMin)`
  | regWant (now : Nat)          -- before `g.regression.Lock()`
  | regHeld (now : Nat)          -- holds the regression lock
  | regA (now hi : Nat)          -- about to store wallSafe
  | regB (now : Nat)             -- about to store wallHi
  | regC (now : Nat)             -- about to store seq
  | regD (now : Nat)             -- about to add to drifts and stamp the id
  | regE                         -- about to unlock
deriving DecidableEq, Repr

structure St where
  g        : Gen
  now      : Nat                -- the wall clock in 4 ms units
  pcs      : Nat → Pc
  active   : Nat                -- number of threads inside New (ghost; gates snapshot/restore)
  mutex    : Option Nat         -- the lock a serialised `SnoGenerator.New` holds (used only when `ser`)
  regLock  : Option Nat         -- `g.regression`
  ovfCount : Nat                -- `g.seqOverflowCount`
  out      : List SnoId         -- ids handed out (by this generator and the generators it was restored from), newest first

def init (g : Gen) (now : Nat) : St :=
  { g, now, pcs := fun _ => .idle, active := 0, mutex := none, regLock := none, ovfCount := 0, out := [] }

/-- thread `i` returns from New with `id` -/
def finish (ser : Bool) (st : St) (i : Nat) (id : Option SnoId) : St :=
  { st with pcs := upd st.pcs i .idle, active := st.active - 1,
            mutex := if ser then none else st.mutex,
            out := match id with | some x => x :: st.out | none => st.out }

def setPc (st : St) (i : Nat) (pc : Pc) : St := { st with pcs := upd st.pcs i pc }

/-- one atomic operation of thread `i`. `ser`: is `SnoGenerator.New` wrapped in a mutex. -/
def stepThr (ser : Bool) (st : St) (i : Nat) : St :=
  let g := st.g
  match st.pcs i with
  | .idle =>
    if ser && st.mutex.isSome then st   -- blocked on the mutex
    else { st with pcs := upd st.pcs i .start, active := st.active + 1,
                   mutex := if ser then some i else st.mutex }
  | .start => setPc st i (.gotHi g.wallHi)
  | .gotHi hi => setPc st i (.gotNow hi st.now)
  | .gotNow hi now =>
    if now = hi then
      -- fastest branch: seq := atomic.AddUint32(&g.seq, 1)
      let s := g.seq + 1
      if s ≤ g.seqMax then { st with g := { g with seq := s }, pcs := upd st.pcs i (.added now s) }
      else { st with g := { g with seq := s }, pcs := upd st.pcs i .ovf, ovfCount := st.ovfCount + 1 }
    else if hi < now then
      -- time progression branch: CAS(&g.wallHi, wallHi, wallNow)
      if g.wallHi = hi then { st with g := { g with wallHi := now }, pcs := upd st.pcs i (.casOk now) }
      else setPc st i (.regWant now)
    else setPc st i (.regWant now)
  | .added now s => finish ser st i (some ⟨now, g.drifts % 2, g.part, s⟩)
  | .ovf =>
    -- `for atomic.LoadUint32(&g.seq) > g.seqMax { Wait() }`, then count-- and `goto retry`
    if g.seqMax < g.seq then st
    else { st with pcs := upd st.pcs i .start, ovfCount := st.ovfCount - 1 }
  | .casOk now => { st with g := { g with seq := g.seqMin }, pcs := upd st.pcs i (.reset now) }
  | .reset now => finish ser st i (some ⟨now, g.drifts % 2, g.part, g.seqMin⟩)
  | .regWant now =>
    match st.regLock with
    | none => { st with regLock := some i, pcs := upd st.pcs i (.regHeld now) }
    | some _ => st
  | .regHeld now =>
    -- check again under the lock
    if g.wallHi ≤ now then { st with regLock := none, pcs := upd st.pcs i .start }
    else if g.wallSafe < now then setPc st i (.regA now g.wallHi)
    else { st with regLock := none, pcs := upd st.pcs i .start }   -- unlock, sleep, retry
  | .regA now hi => { st with g := { g with wallSafe := hi }, pcs := upd st.pcs i (.regB now) }
  | .regB now => { st with g := { g with wallHi := now }, pcs := upd st.pcs i (.regC now) }
  | .regC now => { st with g := { g with seq := g.seqMin }, pcs := upd st.pcs i (.regD now) }
  | .regD now =>
    let d := g.drifts + 1
    { st with g := { g with drifts := d }, pcs := upd st.pcs i .regE,
              out := ⟨now, d % 2, g.part, g.seqMin⟩ :: st.out }
  | .regE => finish ser { st with regLock := none } i none

/-- one firing of the overflow ticker (`seqOverflowLoop`), as one step -/
def stepOvfLoop (st : St) : St :=
  if st.ovfCount = 0 then st
  else if st.g.seq ≤ st.g.seqMax then st            -- broadcast only
  else if st.g.wallHi < st.now then { st with g := { st.g with seq := st.g.seqMin } }
  else st

/-- `Generator.Snapshot()` at clock reading `now` -/
def snapshot (g : Gen) (now : Nat) : Gen :=
  { g with seq := if now = g.wallHi then g.seq else g.seqMin }

/-- `newGeneratorFromSnapshot` after `sanitizeSnapshotBounds` (`Sequence == 0` becomes `SequenceMin`) -/
def restoreGen (s : Gen) : Gen := { s with seq := if s.seq = 0 then s.seqMin else s.seq }

/-- snapshot the generator and continue with the generator restored from the snapshot (only between draws) -/
def stepRestore (st : St) : St :=
  if st.active = 0 then
    { st with g := restoreGen (snapshot st.g st.now), ovfCount := 0, regLock := none }
  else st

inductive Ev where
  | tick              -- the clock moves to the next 4 ms unit
  | thr (i : Nat)     -- thread i performs its next atomic operation
  | ovfLoop           -- the overflow ticker fires
  | restore           -- snapshot + restore
deriving DecidableEq, Repr

def step (ser : Bool) (st : St) : Ev → St
  | .tick => { st with now := st.now + 1 }
  | .thr i => stepThr ser st i
  | .ovfLoop => stepOvfLoop st
  | .restore => stepRestore st

def run (ser : Bool) (st : St) (sched : List Ev) : St := sched.foldl (step ser) st

/-- `New` executed by thread 0 alone, reading the clock as `now`: runs thread 0 until it is idle again
(at most `fuel` operations). Used by the driver to replay single-goroutine traces. -/
def soloNew (st : St) (now : Nat) (fuel : Nat := 24) : St :=
  let st := stepThr false { st with now := now } 0
  let rec go (st : St) : Nat → St
    | 0 => st
    | n + 1 => match st.pcs 0 with
      | .idle => st
      | _ => go (stepThr false st 0) n
  go st fuel

end Bpmn.Model.IdGen
