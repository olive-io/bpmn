/-
Layer 1/2 model of ONE host activity with its boundary events, a port of what /repo does (activity.go `harness`,
task_generic.go / subprocess.go cancel protocol, event_catch.go, the listener flows of flow.go), defects included.

Actors and where their steps come from
* the instance token at the host (flow.Start loop): `activate` (calls `harness.NextAction`; the FIRST call starts the
  listener flows, `harness.once`), `hostTake` (receives the activity's action from `out` and continues on the
  normal outgoing flow);
* the harness run loop + its forwarder goroutine: `harnessActive` (`active := 1`), `harnessCall`
  (`activity.NextAction`: the activity's run loop is started by the CAS 0→1 and the next-action message is queued —
  a SEPARATE step: a tracer send, and for a sub-process the start of its monitor, sit between the two, and an
  interrupting listener that fires in between gets its cancel message into the activity's inbox FIRST). Their
  order is the fact `Cfg.early` (`hStage` counts how many of the two have been executed; the forwarder goroutine
  is created after both), `forward` (`out <- rsp`), `clear` (`active := 0`, a separate statement; before or after the
  hand-over: fact `Cfg.resetFirst`);
* the task / sub-process run loop: `taskTake` handles the head of its inbox: a next-action message spawns the request
  goroutine; a cancel message is answered `false` while `active.Load() > 1` (a request goroutine is counted), else
  `true` and the run loop EXITS;
* the request goroutine: `reqStart` (`active.Add(1)`, the TaskTrace becomes visible / the sub-process content starts),
  `respond` (after the answer: the action is put on the response channel), `decrement` (deferred `active.Add(-1)`);
* per boundary event a catch event + a listener flow: `arm i` (catch event activated), `catchTake i` (the catch event
  looks at a forwarded event: fires if activated and then sets `activated := false`, else drops it), `transform i`
  (the listener flow got the action; an interrupting listener runs `cancellation.Do(<-activity.Cancel())`: the
  cancel message is queued at the task and the flow waits for the verdict), `move i` (the listener flow continues
  on the boundary event's outgoing flow: the exception flow);
* the driver: `activate` (the token arrives), `deliver i` (`Process.ConsumeEvent` of the event boundary event `i`
  listens to: `harness.ConsumeEvent` forwards it only while `active == 1`), `answer` (the task is answered / the
  sub-process content finishes).
Every label is one atomic step; which enabled label is taken next is the scheduler's choice, so a run is a list of
labels and theorems quantify over all of them.

Abstractions (stated, not hidden): one activation of the host (no loop back into it: `activate` is enabled once);
channel capacities are not modelled (C11); each boundary event listens to its own event; a forwarded event that the catch
event sees before it was activated is dropped (in the code it sits in the inbox in FRONT of the next-action
message, so it is looked at first, not activated, and dropped).

`Cfg` are the facts extracted from the source (extract/facts_c10.go).
-/
namespace Bpmn.Model.Boundary

structure Cfg where
  /-- `harness.ConsumeEvent` forwards only while `active == 1` -/
  gated : Bool
  /-- the interrupting transformer cancels through `cancellation.Do` (a sync.Once) -/
  once : Bool
  /-- the cancel branch of the activity refuses (`false`) while `active.Load() > 1` -/
  refuse : Bool
  /-- the listener flows are created with the instance's flow wait group -/
  share : Bool
  /-- `harness.run` stores `active = 1` BEFORE it calls `activity.NextAction` (which queues the activity's first
      message); `false`: the other way round -/
  early : Bool
  /-- the harness's answer-relay goroutine stores `active = 0` BEFORE it hands the activity's answer to the token
      (`out <- rsp`); `false`: afterwards -/
  resetFirst : Bool
deriving DecidableEq, Repr

/-- what the code is today -/
def Cfg.code : Cfg :=
  { gated := true, once := true, refuse := true, share := true, early := true, resetFirst := true }

inductive LPhase where
  | idle        -- flow not started (host never reached)
  | starting    -- flow started (a live token in the wait group), catch event not yet activated
  | armed       -- catch event activated, flow parked in the select
  | fired       -- the catch event matched and handed its action to the flow (`activated := false`)
  | cancelling  -- interrupting: cancel message queued at the activity, flow waits for the verdict
  | ready       -- transformer done
  | moved       -- the flow left the boundary event along its outgoing flow
deriving DecidableEq, Repr

def LPhase.rank : LPhase → Nat
  | .idle => 0 | .starting => 1 | .armed => 2 | .fired => 3 | .cancelling => 4 | .ready => 5 | .moved => 6

structure Listener where
  interrupting : Bool
  phase : LPhase := .idle
  /-- events forwarded by the harness, not yet looked at by the catch event -/
  inbox : Nat := 0
  /-- events forwarded in total -/
  got : Nat := 0
  /-- events the catch event looked at while not activated (before arming, or after it fired) -/
  dropped : Nat := 0
  /-- times the exception flow continued -/
  conts : Nat := 0
deriving DecidableEq, Repr

/-- progress of the host's (single) request -/
inductive Req where
  | none       -- token not yet at the host
  | atHarness  -- next-action message queued at the harness
  | atTask     -- message queued at the activity
  | spawned    -- request goroutine spawned, not yet counted in `active`
  | pending    -- waits for its answer (TaskTrace visible)
  | answered   -- answer given, action not yet on the response channel
  | responded  -- action on the response channel
  | forwarded  -- action on the harness's `out` channel
  | done       -- the token took it: normal flow continued
deriving DecidableEq, Repr

def Req.rank : Req → Nat
  | .none => 0 | .atHarness => 1 | .atTask => 2 | .spawned => 3 | .pending => 4 | .answered => 5
  | .responded => 6 | .forwarded => 7 | .done => 8

inductive TMsg where
  | next
  | cancel (i : Nat)
deriving DecidableEq, Repr

def TMsg.isCancel : TMsg → Bool
  | .cancel _ => true
  | .next => false

structure St where
  ls : List Listener
  req : Req := .none
  /-- how many of the harness's two activation statements (`active := 1`, `activity.NextAction`) have run -/
  hStage : Nat := 0
  /-- `harness.active` -/
  hActive : Bool := false
  /-- the answer-relay goroutine has executed `active := 0` -/
  cleared : Bool := false
  /-- the activity's run loop is alive -/
  tRun : Bool := false
  /-- the request goroutine is between `active.Add(1)` and `active.Add(-1)` (so `active.Load() > 1`) -/
  counted : Bool := false
  /-- the activity's inbox -/
  tq : List TMsg := []
  /-- `cancellation` has been used -/
  cancelUsed : Bool := false
  /-- verdicts the activity gave to cancel messages, oldest first -/
  verdicts : List Bool := []
  /-- times the normal flow continued -/
  normal : Nat := 0
  /-- requests of the host that became visible -/
  hreqs : Nat := 0
deriving DecidableEq, Repr

inductive Label where
  | activate | deliver (i : Nat) | answer
  | harnessActive | harnessCall | taskTake | reqStart | respond | decrement | forward | clear | hostTake
  | arm (i : Nat) | catchTake (i : Nat) | transform (i : Nat) | move (i : Nat)
deriving DecidableEq, Repr

def Label.internal : Label → Bool
  | .activate | .deliver _ | .answer => false
  | _ => true

def init (kinds : List Bool) : St := { ls := kinds.map (fun b => { interrupting := b }) }

def startListener (l : Listener) : Listener :=
  match l.phase with
  | .idle => { l with phase := .starting }
  | _ => l

/-- one atomic step; `none` = the label is not enabled -/
def step (cfg : Cfg) (s : St) : Label → Option St
  | .activate =>
    match s.req with
    | .none => some { s with req := .atHarness, ls := s.ls.map startListener }
    | _ => none
  | .harnessActive =>
    if cfg.early then
      (match s.req, s.hStage with
       | .atHarness, 0 => some { s with hStage := 1, hActive := true }
       | _, _ => none)
    else
      (match s.hStage with
       | 1 => some { s with hStage := 2, hActive := true }
       | _ => none)
  | .harnessCall =>
    match s.req, s.hStage with
    | .atHarness, 0 =>
      if cfg.early then none else some { s with req := .atTask, hStage := 1, tRun := true, tq := s.tq ++ [.next] }
    | .atHarness, 1 =>
      if cfg.early then some { s with req := .atTask, hStage := 2, tRun := true, tq := s.tq ++ [.next] } else none
    | _, _ => none
  | .taskTake =>
    if s.tRun then
      match s.tq with
      | [] => none
      | .next :: rest => some { s with tq := rest, req := (match s.req with | .atTask => .spawned | r => r) }
      | .cancel i :: rest =>
        let accept := !(cfg.refuse && s.counted)
        let ls := match s.ls[i]? with
          | some l => (match l.phase with
              | .cancelling => s.ls.set i { l with phase := .ready }
              | _ => s.ls)
          | none => s.ls
        some { s with tq := rest, ls := ls, verdicts := s.verdicts ++ [accept], tRun := !accept }
    else none
  | .reqStart =>
    match s.req with
    | .spawned => some { s with req := .pending, counted := true, hreqs := s.hreqs + 1 }
    | _ => none
  | .answer =>
    match s.req with
    | .pending => some { s with req := .answered }
    | _ => none
  | .respond =>
    match s.req with
    | .answered => some { s with req := .responded }
    | _ => none
  | .decrement =>
    if s.counted then
      match s.req with
      | .responded | .forwarded | .done => some { s with counted := false }
      | _ => none
    else none
  | .forward =>
    match s.req, s.hStage with
    | .responded, 2 => if cfg.resetFirst && !s.cleared then none else some { s with req := .forwarded }
    | _, _ => none
  | .clear =>
    if s.cleared then none
    else
      (match s.req, s.hStage with
       | .responded, 2 => if cfg.resetFirst then some { s with cleared := true, hActive := false } else none
       | .forwarded, _ | .done, _ => if cfg.resetFirst then none else some { s with cleared := true, hActive := false }
       | _, _ => none)
  | .hostTake =>
    match s.req with
    | .forwarded => some { s with req := .done, normal := s.normal + 1 }
    | _ => none
  | .deliver i =>
    match s.ls[i]? with
    | some l =>
      if !cfg.gated || s.hActive then some { s with ls := s.ls.set i { l with inbox := l.inbox + 1, got := l.got + 1 } }
      else some s
    | none => none
  | .arm i =>
    match s.ls[i]? with
    | some l => (match l.phase with
        | .starting => some { s with ls := s.ls.set i { l with phase := .armed } }
        | _ => none)
    | none => none
  | .catchTake i =>
    match s.ls[i]? with
    | some l =>
      (match l.inbox with
       | 0 => none
       | n + 1 =>
         (match l.phase with
          | .armed => some { s with ls := s.ls.set i { l with inbox := n, phase := .fired } }
          | _ => some { s with ls := s.ls.set i { l with inbox := n, dropped := l.dropped + 1 } }))
    | none => none
  | .transform i =>
    match s.ls[i]? with
    | some l => (match l.phase with
        | .fired =>
          if l.interrupting && !(cfg.once && s.cancelUsed) then
            some { s with ls := s.ls.set i { l with phase := .cancelling }, cancelUsed := true, tq := s.tq ++ [.cancel i] }
          else some { s with ls := s.ls.set i { l with phase := .ready } }
        | _ => none)
    | none => none
  | .move i =>
    match s.ls[i]? with
    | some l => (match l.phase with
        | .ready => some { s with ls := s.ls.set i { l with phase := .moved, conts := l.conts + 1 } }
        | _ => none)
    | none => none

def run (cfg : Cfg) (s : St) : List Label → Option St
  | [] => some s
  | l :: rest => (step cfg s l).bind (fun s' => run cfg s' rest)

/-- a listener has nothing it can do on its own -/
def Listener.quiet (l : Listener) : Bool :=
  l.inbox == 0 && (match l.phase with
    | .starting | .fired | .ready => false
    | _ => true)

/-- no internal label is enabled (`quiet_iff` in Lemmas/Boundary.lean) -/
def quiet (cfg : Cfg) (s : St) : Bool :=
  (match s.req with
   | .spawned | .answered | .forwarded => false
   | _ => true)
  && !((match s.req with | .atHarness => true | _ => false) && (s.hStage == 0 || (cfg.early && s.hStage == 1)))
  && !(!cfg.early && s.hStage == 1)
  && !((match s.req with | .responded => true | _ => false) && s.hStage == 2)
  && !(!s.cleared && !cfg.resetFirst && (match s.req with | .forwarded | .done => true | _ => false))
  && !(s.tRun && !s.tq.isEmpty)
  && !(s.counted && (match s.req with | .responded | .forwarded | .done => true | _ => false))
  && s.ls.all Listener.quiet

/-- a listener flow that is still at its boundary event is a live token of the wait group it was created with -/
def Listener.atBoundary (l : Listener) : Bool :=
  match l.phase with
  | .idle | .moved => false
  | _ => true

/-- what the listeners still at their boundary events contribute to the instance wait group -/
def wgListeners (cfg : Cfg) (s : St) : Nat :=
  if cfg.share then (s.ls.filter Listener.atBoundary).length else 0

/-- the instance can complete once the tokens on the normal and exception paths have reached their end events -/
def canComplete (cfg : Cfg) (s : St) : Bool :=
  (match s.req with | .done => true | _ => false) && wgListeners cfg s == 0

/-! ### exploration (used by the driver `Driver/C10`) -/

def internalLabels (s : St) : List Label :=
  [.harnessActive, .harnessCall, .taskTake, .reqStart, .respond, .decrement, .forward, .clear, .hostTake]
  ++ (List.range s.ls.length).flatMap (fun i => [.arm i, .catchTake i, .transform i, .move i])

/-- successors by one internal step, labels for which `blocked` holds excluded (a goroutine parked by the
schedule controller); `extra` are labels that have become enabled by an earlier driver action and happen on their
own (`activate` once the task in front of the host has been answered) -/
def succs (cfg : Cfg) (blocked : Label → Bool) (extra : List Label) (s : St) : List St :=
  (extra ++ internalLabels s).filterMap (fun l => if blocked l then none else step cfg s l)

def insertNew (acc : List St) (xs : List St) : List St × List St :=
  xs.foldl (fun (p : List St × List St) x => if p.1.contains x then p else (x :: p.1, x :: p.2)) (acc, [])

/-- all states reachable by internal steps (the frontier is expanded `fuel` times) -/
def closure (cfg : Cfg) (blocked : Label → Bool) (extra : List Label) : Nat → List St → List St → List St
  | 0, acc, _ => acc
  | _, acc, [] => acc
  | fuel + 1, acc, frontier =>
    let next := frontier.flatMap (succs cfg blocked extra)
    let (acc', fresh) := insertNew acc next
    closure cfg blocked extra fuel acc' fresh

def reachInternal (cfg : Cfg) (blocked : Label → Bool) (extra : List Label) (ss : List St) : List St :=
  let (acc, fresh) := insertNew [] ss
  closure cfg blocked extra 200 acc fresh

/-- no unblocked internal step is enabled -/
def stuck (cfg : Cfg) (blocked : Label → Bool) (extra : List Label) (s : St) : Bool :=
  (succs cfg blocked extra s).isEmpty

end Bpmn.Model.Boundary
