/-!
# Event-based gateway — winner / loser hand-off at channel granularity (layer 1, property C06)

A port of what `/repo/gateway_event_based.go`, the `select` loop of `flow.Start` (`/repo/flow.go`) and the catch
event node (`/repo/event_catch.go`) DO, defects included. Core Lean only.

The gateway hands the arriving token one `flowAction` with `k` sequence flows, one termination channel per flow
(`terminationChannels[id] = make(chan bool[, ebgTermCap])`), a `terminate` closure that looks the channel up in the
(captured, later REASSIGNED) map variable, and an action transformer. The token continues on the first flow and forks
one flow per further alternative; each of these `k` flows then loops in

    select { case <-ctx.Done(): …
             case terminate := <-f.termination(): …           -- evaluated first
             case action := <-f.current.NextAction(ctx, f): … -- registers a fresh reply channel at the catch node }

Actors and their program counters:

* flow `i` (`Pc`): `starting` (forked, select not evaluated yet) → `selecting` (inside the select: may receive `true`
  on its termination channel or its catch event's action) → `gotAction` (its event fired; about to run the
  transformer — hook `flow.action`) → `inTransformer` (hook `ebg.transformer.enter`, before the compare-and-swap)
  → either `notifying` (it won the CAS — hook `ebg.transformer.won`; it loops over ALL channels: `ch <- true` to
  every other one — hook `ebg.transformer.before_notify` — then `close(ch)`; Go's map iteration order is
  unspecified, so the loop index is represented by the set of channels already closed plus the channel the loop is
  at (`target`): the scheduler picks the next channel among the unclosed ones WHETHER OR NOT its flow can receive,
  and the winner is then committed to it) → `continued` (the transformer returned the original action: the branch continues, exactly here)
  or `completed` (it lost the CAS, got `completeAction`, the flow ends);
  `selecting` → `terminated` when it reads `true` from its termination channel.
* catch node `j`: inbox of capacity `inboxCap` (`len(incoming)*2+1`) holding `reg` (the flow's `nextActionMessage`
  with its parked reply channel) and `ev a` (`processEventMessage`); `active` (`activated`, which here coincides with
  "one reply channel is parked": each flow registers once); `sending` while it executes `actionChan <- flowAction{…}`
  on the parked reply channel of capacity `replyCap` (0 before the repair c316620: a rendezvous with the flow's select).
* deliveries: `Process.ConsumeEvent` forwards the event to every consumer's inbox in registration order, blocking on a
  full inbox; several may be in flight (`dels`).
* the CAS flag `first` (with the identity of the flow that set it), the captured map variable (`mapGone`: it has been
  replaced by an empty map, so `terminate` returns a nil channel from now on — only if `mapReplaced`), the flow
  wait group `wg`.

A schedule is an explicit list of labels; a label that is not enabled is skipped by `exec` (so every list is a
schedule and theorems quantify over all of them) and rejected by `run` (used for witnesses).
-/
namespace Bpmn.Model.EventGateway

inductive Pc where
  | starting | selecting | gotAction | inTransformer | notifying | continued | terminated | completed
  deriving DecidableEq, Repr, Inhabited

inductive NodePc where
  | idle | sending
  deriving DecidableEq, Repr, Inhabited

inductive Msg where
  | ev (a : Nat)
  | reg
  deriving DecidableEq, Repr, Inhabited

/-- the program parameter `k` and the facts read from the source -/
structure Cfg where
  k : Nat
  /-- capacity of each termination channel (`ebgTermCap`; 0 before the repair a032601) -/
  termCap : Nat
  /-- the winner assigns a fresh empty map to the captured `terminationChannels` variable after its loop -/
  mapReplaced : Bool
  /-- capacity of the reply channel made by `catchEvent.NextAction` (0 before the repair c316620) -/
  replyCap : Nat
  /-- capacity of a catch node's inbox -/
  inboxCap : Nat
  deriving Repr

def upd {α : Type} (f : Nat → α) (i : Nat) (v : α) : Nat → α := fun j => if j = i then v else f j

@[simp] theorem upd_same {α : Type} (f : Nat → α) (i : Nat) (v : α) : upd f i v i = v := by simp [upd]
@[simp] theorem upd_other {α : Type} (f : Nat → α) (i j : Nat) (v : α) (h : j ≠ i) : upd f i v j = f j := by
  simp [upd, h]

structure St where
  pc : Nat → Pc
  /-- the compare-and-swap flag: `none` = 0, `some w` = 1, set by flow `w` -/
  first : Option Nat
  /-- termination channel `t` has been closed by the winner -/
  closed : Nat → Bool
  /-- number of values buffered in termination channel `t` -/
  termBuf : Nat → Nat
  /-- flow `i` evaluated `f.termination()` after the map had been replaced: its select waits on a nil channel -/
  nilChan : Nat → Bool
  mapGone : Bool
  /-- the channel the winner's loop is at (`none`: between two iterations) -/
  target : Option Nat
  npc : Nat → NodePc
  active : Nat → Bool
  /-- number of values buffered in the reply channel parked at node `j` -/
  replyBuf : Nat → Nat
  inbox : Nat → List Msg
  /-- deliveries in flight: (event, index of the next consumer to forward to) -/
  dels : List (Nat × Nat)
  /-- the flow wait group restricted to the gateway's flows -/
  wg : Nat

def init (c : Cfg) : St :=
  { pc := fun _ => .starting, first := none, closed := fun _ => false, termBuf := fun _ => 0,
    nilChan := fun _ => false, mapGone := false, target := none, npc := fun _ => .idle, active := fun _ => false,
    replyBuf := fun _ => 0, inbox := fun _ => [], dels := [], wg := c.k }

/-- scheduler choices -/
inductive Lbl where
  | enterSelect (i : Nat)        -- flow i evaluates its select: termination(), then NextAction (registers)
  | node (j : Nat)               -- catch node j takes the next inbox message
  | send (j : Nat)               -- catch node j completes `actionChan <- flowAction`
  | takeAction (j : Nat)         -- flow j takes the buffered action out of its reply channel (replyCap ≥ 1)
  | enterTransformer (i : Nat)   -- flow i calls the action transformer
  | cas (i : Nat)                -- compare-and-swap
  | pick (i t : Nat)             -- winner i: the map iteration yields channel t next
  | notify (i t : Nat)           -- winner i: `ch_t <- true; close(ch_t)` for another alternative t
  | closeOwn (i : Nat)           -- winner i: `close(ch_i)`
  | finish (i : Nat)             -- winner i: loop done, map variable reassigned, original action returned
  | recvTerm (t : Nat)           -- flow t reads `true` from its (buffered) termination channel
  | deliver (a : Nat)            -- INPUT: somebody calls ConsumeEvent(event of alternative a)
  | forward (d : Nat)            -- delivery d pushes its event into the next consumer's inbox
  deriving DecidableEq, Repr, Inhabited

def Lbl.isInput : Lbl → Bool
  | .deliver _ => true
  | _ => false

/-- the `d`-th delivery in flight: (event, next consumer) -/
def delAt (s : St) (d : Nat) : Nat × Nat := (s.dels[d]?).getD (0, 0)

def allClosed (c : Cfg) (s : St) : Bool := (List.range c.k).all (fun t => s.closed t)

/-- is the label enabled -/
def enabled (c : Cfg) (s : St) : Lbl → Bool
  | .enterSelect i => decide (i < c.k) && decide (s.pc i = .starting) && decide ((s.inbox i).length < c.inboxCap)
  | .node j => decide (j < c.k) && decide (s.npc j = .idle) && !(s.inbox j).isEmpty
  | .send j =>
    decide (j < c.k) && decide (s.npc j = .sending) &&
      (if c.replyCap = 0 then decide (s.pc j = .selecting) else decide (s.replyBuf j < c.replyCap))
  | .takeAction j => decide (j < c.k) && decide (s.pc j = .selecting) && decide (0 < s.replyBuf j)
  | .enterTransformer i => decide (i < c.k) && decide (s.pc i = .gotAction)
  | .cas i => decide (i < c.k) && decide (s.pc i = .inTransformer)
  | .pick i t =>
    decide (i < c.k) && decide (t < c.k) && decide (s.pc i = .notifying) && decide (s.target = none) && !s.closed t
  | .notify i t =>
    decide (i < c.k) && decide (t < c.k) && decide (t ≠ i) && decide (s.pc i = .notifying) &&
      decide (s.target = some t) &&
      (if c.termCap = 0 then decide (s.pc t = .selecting) && !s.nilChan t else decide (s.termBuf t < c.termCap))
  | .closeOwn i => decide (i < c.k) && decide (s.pc i = .notifying) && decide (s.target = some i)
  | .finish i => decide (i < c.k) && decide (s.pc i = .notifying) && decide (s.target = none) && allClosed c s
  | .recvTerm t => decide (t < c.k) && decide (s.pc t = .selecting) && !s.nilChan t && decide (0 < s.termBuf t)
  | .deliver a => decide (a < c.k)
  | .forward d =>
    decide (d < s.dels.length) && decide ((delAt s d).2 < c.k) &&
      decide ((s.inbox (delAt s d).2).length < c.inboxCap)

/-- effect of an enabled label (conditions are pushed into the field values: easier to project) -/
def fire (c : Cfg) (s : St) : Lbl → St
  | .enterSelect i =>
    { s with pc := upd s.pc i .selecting, nilChan := upd s.nilChan i s.mapGone,
             inbox := upd s.inbox i (s.inbox i ++ [.reg]) }
  | .node j =>
    -- `reg`: the flow's reply channel is parked, the node is activated; `ev j` while activated: the node starts
    -- sending the action on the parked channel; anything else is dropped
    { s with inbox := upd s.inbox j (s.inbox j).tail,
             active := if (s.inbox j).head? = some .reg then upd s.active j true else s.active,
             npc := if (s.inbox j).head? = some (.ev j) ∧ s.active j = true then upd s.npc j .sending else s.npc }
  | .send j =>
    { s with npc := upd s.npc j .idle, active := upd s.active j false,
             pc := if c.replyCap = 0 then upd s.pc j .gotAction else s.pc,
             replyBuf := if c.replyCap = 0 then s.replyBuf else upd s.replyBuf j (s.replyBuf j + 1) }
  | .takeAction j => { s with pc := upd s.pc j .gotAction, replyBuf := upd s.replyBuf j (s.replyBuf j - 1) }
  | .enterTransformer i => { s with pc := upd s.pc i .inTransformer }
  | .cas i =>
    { s with first := if s.first = none then some i else s.first,
             pc := upd s.pc i (if s.first = none then .notifying else .completed),
             wg := if s.first = none then s.wg else s.wg - 1 }
  | .pick _ t => { s with target := some t }
  | .notify _ t =>
    { s with closed := upd s.closed t true, target := none,
             pc := if c.termCap = 0 then upd s.pc t .terminated else s.pc,
             wg := if c.termCap = 0 then s.wg - 1 else s.wg,
             termBuf := if c.termCap = 0 then s.termBuf else upd s.termBuf t (s.termBuf t + 1) }
  | .closeOwn i => { s with closed := upd s.closed i true, target := none }
  | .finish i => { s with pc := upd s.pc i .continued, mapGone := s.mapGone || c.mapReplaced }
  | .recvTerm t =>
    { s with pc := upd s.pc t .terminated, termBuf := upd s.termBuf t (s.termBuf t - 1), wg := s.wg - 1 }
  | .deliver a => { s with dels := s.dels ++ [(a, 0)] }
  | .forward d =>
    { s with inbox := upd s.inbox (delAt s d).2 (s.inbox (delAt s d).2 ++ [.ev (delAt s d).1]),
             dels := if (delAt s d).2 + 1 = c.k then s.dels.eraseIdx d
                     else s.dels.set d ((delAt s d).1, (delAt s d).2 + 1) }

def step (c : Cfg) (l : Lbl) (s : St) : Option St := if enabled c s l then some (fire c s l) else none

/-- every list of labels is a schedule: a label that is not enabled is skipped -/
def exec (c : Cfg) (s : St) (sch : List Lbl) : St := sch.foldl (fun s l => (step c l s).getD s) s

/-- strict execution for witnesses: every label must be enabled -/
def run (c : Cfg) (s : St) : List Lbl → Option St
  | [] => some s
  | l :: ls => (step c l s).bind (fun s' => run c s' ls)

/-! ## observables -/

/-- the flow passed the compare-and-swap -/
def Pc.won : Pc → Bool
  | .notifying | .continued => true
  | _ => false

/-- the flow's goroutine has ended (its deferred `flowWaitGroup.Done()` ran) -/
def Pc.gone : Pc → Bool
  | .terminated | .completed => true
  | _ => false

/-- the flow has observed its competing event -/
def Pc.observed : Pc → Bool
  | .gotAction | .inTransformer | .notifying | .continued | .completed => true
  | _ => false

def liveCount (c : Cfg) (s : St) : Nat := (List.range c.k).countP (fun i => !(s.pc i).gone)

/-- nothing but an input can happen -/
def terminal (c : Cfg) (s : St) : Prop := ∀ l : Lbl, l.isInput = false → enabled c s l = false

/-- the outcome C06 asks for: one branch continued, every other flow withdrawn, the wait group down to the winner -/
def settled (c : Cfg) (s : St) : Prop :=
  ∃ w, w < c.k ∧ s.pc w = .continued ∧ (∀ j, j < c.k → j ≠ w → (s.pc j).gone = true) ∧ s.wg = 1

/-- candidate labels (the enabled ones are among them) -/
def labels (c : Cfg) (s : St) : List Lbl :=
  (List.range c.k).flatMap (fun i =>
    [.enterSelect i, .node i, .send i, .takeAction i, .enterTransformer i, .cas i, .closeOwn i, .finish i, .recvTerm i]
      ++ (List.range c.k).flatMap (fun t => [.pick i t, .notify i t]))
  ++ (List.range s.dels.length).map .forward

def enabledLabels (c : Cfg) (s : St) : List Lbl := (labels c s).filter (enabled c s)

/-- run internal steps (first enabled candidate first) until none is enabled or the fuel runs out -/
def quiesce (c : Cfg) : Nat → St → St
  | 0, s => s
  | n + 1, s =>
    match enabledLabels c s with
    | [] => s
    | l :: _ => quiesce c n (fire c s l)

/-- canonical key of a state (for the driver's reachability search) -/
def Pc.code : Pc → Nat
  | .starting => 0 | .selecting => 1 | .gotAction => 2 | .inTransformer => 3 | .notifying => 4
  | .continued => 5 | .terminated => 6 | .completed => 7

def Msg.code : Msg → Nat
  | .reg => 0
  | .ev a => a + 1

def key (c : Cfg) (s : St) : List Nat :=
  (List.range c.k).flatMap (fun i =>
    [(s.pc i).code, (if s.closed i then 1 else 0), s.termBuf i, (if s.nilChan i then 1 else 0),
     (if s.npc i = .sending then 1 else 0), (if s.active i then 1 else 0), s.replyBuf i, 99]
    ++ (s.inbox i).map Msg.code ++ [98])
  ++ [match s.first with | none => 0 | some w => w + 1, (if s.mapGone then 1 else 0), s.wg,
      match s.target with | none => 0 | some t => t + 1, 97]
  ++ s.dels.flatMap (fun d => [d.1, d.2])

/-! ## the witness schedules (replayed on the real engine by the harness, family `c06`) -/

/-- all flows reach their select and register; the nodes take the registrations -/
def setupSched (k : Nat) : List Lbl :=
  (List.range k).map .enterSelect ++ (List.range k).map .node

/-- delivery of event `a` to all `k` inboxes when it is the only delivery in flight -/
def deliverSched (k a : Nat) : List Lbl := .deliver a :: (List.range k).map (fun _ => .forward 0)

/-- D5 (`ebgTermCap = 0`, reply channels unbuffered): alternative `w` wins the CAS and, before it offers `true`
(hook `ebg.transformer.before_notify`: its loop is at channel `l`), alternative `l`'s own event is delivered; `l` takes its action, loses the CAS
and goes away with `completeAction`; the winner's `ch_l <- true` can never be received. `k = 2`, `w = 0`, `l = 1`. -/
def deadlockSched : List Lbl :=
  setupSched 2 ++ deliverSched 2 0 ++ [.node 0, .send 0, .enterTransformer 0, .cas 0, .node 1, .pick 0 1]
    ++ deliverSched 2 1 ++ [.node 0, .node 1, .send 1, .enterTransformer 1, .cas 1]

/-- the same with buffered reply channels (`replyCap ≥ 1`) -/
def deadlockSchedBuffered : List Lbl :=
  setupSched 2 ++ deliverSched 2 0 ++ [.node 0, .send 0, .takeAction 0, .enterTransformer 0, .cas 0, .node 1, .pick 0 1]
    ++ deliverSched 2 1 ++ [.node 0, .node 1, .send 1, .takeAction 1, .enterTransformer 1, .cas 1]

/-- the witness schedule of D5 for the given facts -/
def deadlockWitness (c : Cfg) : List Lbl := if c.replyCap = 0 then deadlockSched else deadlockSchedBuffered

/-- both alternatives reach the transformer before either executes the compare-and-swap (hook
`ebg.transformer.enter` held for both, harness mode `wit2`): the compare-and-swap lets exactly one of them through -/
def bothInTransformerSched (replyBuffered : Bool) : List Lbl :=
  setupSched 2 ++ deliverSched 2 0 ++ deliverSched 2 1 ++ [.node 0, .send 0, .node 0, .node 1, .node 1, .send 1]
    ++ (if replyBuffered then [.takeAction 0, .takeAction 1] else [])
    ++ [.enterTransformer 0, .enterTransformer 1, .cas 0, .cas 1]

/-- buffered termination channels but the map variable still reassigned: flow 1 evaluates its select only after the
winner has finished; it waits on a nil channel and is never withdrawn. -/
def lateSelectSched (replyBuffered : Bool) : List Lbl :=
  [.enterSelect 0, .node 0] ++ deliverSched 2 0 ++ [.node 0, .send 0]
    ++ (if replyBuffered then [.takeAction 0] else [])
    ++ [.enterTransformer 0, .cas 0, .pick 0 1, .notify 0 1, .pick 0 0, .closeOwn 0, .finish 0, .node 1, .enterSelect 1,
        .node 1]

/-- the good run: alternative 0's event arrives alone, 0 wins, 1 is withdrawn through its termination channel
(`termBuffered`: `ebgTermCap ≥ 1`, the loser reads the buffered `true`; `replyBuffered`: `catchReplyCap ≥ 1`) -/
def settleSched (termBuffered replyBuffered : Bool) : List Lbl :=
  setupSched 2 ++ deliverSched 2 0 ++ [.node 0, .send 0] ++ (if replyBuffered then [.takeAction 0] else [])
    ++ [.enterTransformer 0, .cas 0, .node 1, .pick 0 1, .notify 0 1]
    ++ (if termBuffered then [.recvTerm 1] else []) ++ [.pick 0 0, .closeOwn 0, .finish 0]

/-- D21 (`replyCap = 0`), first half: after the gateway has settled the event of the withdrawn alternative 1 is
delivered; node 1 is still activated and starts sending on the reply channel of the dead flow — forever. -/
def lateEventSched : List Lbl := deliverSched 2 1 ++ [.node 0, .node 1]

/-- D21, second half: `inboxCap` further deliveries fill the stuck node's inbox and the next one blocks its caller -/
def lateFillSched (inboxCap : Nat) : List Lbl :=
  (List.range inboxCap).flatMap (fun _ => deliverSched 2 1 ++ [.node 0]) ++ [.deliver 1, .forward 0, .node 0]

def lateBlockSched (termBuffered : Bool) (inboxCap : Nat) : List Lbl :=
  settleSched termBuffered false ++ lateEventSched ++ lateFillSched inboxCap

end Bpmn.Model.EventGateway
