/-!
# Process set (layer 1): `process_set.go`

A port of what `ProcessSet` does, at the granularity of the goroutines that race in it.

* A **member** is one process instance of the set: an executable process started by `StartAll`, or a waiting
  process instantiated by the `run` loop for a message flow. The member process itself is abstract: a stream of
  the traces the set's watcher looks at (`Ev.throw id` — a `FlowTrace` whose source is the throw event `id`;
  `Ev.listen c` — an `ActiveListeningTrace` of catch event `c`, after which the process waits for that event;
  `Ev.tau` — any other trace), followed by the `CeaseFlowTrace` (`Tr.cease`).
* The **watcher** of a member is `tracerProcess`: `wg.Add(1)` and `go` happen in `StartAll` / `run` AFTER the
  process was started; its first action is `process.Tracer().Subscribe()`. Whatever the member emits before the
  subscription is lost to the watcher (`Member.missed`). `Cfg.subBeforeStart` / `Cfg.instSubBeforeStart` (extracted
  facts) say whether the subscription is established before the process is started.
  `Cfg.addBeforeStart` / `Cfg.instAddBeforeStart` say whether `wg.Add(1); go tracerProcess` also precede the start
  (then the member is registered in the very step that starts it).
* `WaitUntilComplete` spawns, on EVERY call, a goroutine `wg.Wait(); close(ps.done)` (a **closer**). A second
  `close` of the channel panics unless the close is guarded (`Cfg.closeOnce`, extracted).
* `run` handles throw messages (`mch`) — instantiate the waiting process at the referenced start event, or wake
  the referenced catch event through the registry `catchCh` — and, once `done` is closed, sends the one
  `CeaseProcessSetTrace` and returns. Go's `select` picks among ready cases at random: both `runMsg` and `runDone`
  may be enabled.

Scheduling is explicit: a run of the model is a `List Choice`; a choice that is not enabled is a no-op.
Ghost fields (they influence no transition) are marked as such.

Not modelled: cancellation of the context; the bound of `mch` (capacity `len(executes)+1`, extracted and recorded;
the watcher's send is taken as never blocking); the bound 10 of the subscription channel; `sync.WaitGroup`
misuse panics (`Add` concurrent with a `Wait` that sees zero).
-/
namespace Bpmn.Model.ProcessSet

inductive Ev where
  | tau
  | throw (id : Nat)
  | listen (c : Nat)
deriving DecidableEq, Repr

inductive Tr where
  | ev (e : Ev)
  | cease
deriving DecidableEq, Repr

/-- target of a message flow: the start event of waiting process `w`, or catch event `c` -/
inductive Target where
  | start (w : Nat)
  | catch_ (c : Nat)
deriving DecidableEq, Repr

/-- facts of the source; `Props/C18Current.cfgOf` assembles the value for /repo from the generated `Gen/C18` -/
structure Cfg where
  /-- `StartAll`: the watcher's subscription is established before `process.StartAll(ctx)` -/
  subBeforeStart : Bool
  /-- `run`: the watcher's subscription is established before `process.StartWith(ctx, startFlowNode)` -/
  instSubBeforeStart : Bool
  /-- `close(ps.done)` is executed at most once (sync.Once / a single closing goroutine) -/
  closeOnce : Bool
  /-- `StartAll`: `wg.Add(1); go ps.tracerProcess(...)` precede `process.StartAll(ctx)`
  (default: the order in the source as first extracted) -/
  addBeforeStart : Bool := false
  /-- `run`: `wg.Add(1); go ps.tracerProcess(...)` precede `process.StartWith(ctx, startFlowNode)` (default as above) -/
  instAddBeforeStart : Bool := false
deriving DecidableEq, Repr

/-- the code as it should be -/
def Cfg.repaired : Cfg :=
  { subBeforeStart := true, instSubBeforeStart := true, closeOnce := true, addBeforeStart := true, instAddBeforeStart := true }

structure Setup where
  /-- trace streams of the executable processes, in `StartAll` order -/
  execs : List (List Ev)
  /-- trace streams of the waiting (non-executable) processes -/
  waitings : List (List Ev)
  /-- message flows: throw event id ↦ target -/
  flows : List (Nat × Target)
deriving Repr

def Setup.target (su : Setup) (id : Nat) : Option Target := (su.flows.find? (·.1 == id)).map (·.2)

structure Member where
  /-- what the process has still to emit (then `Tr.cease`) -/
  todo : List Ev
  /-- ghost: `none` = started by `StartAll`; `some id` = instantiated by `run` for a message of throw event `id` -/
  origin : Option Nat := none
  /-- ghost: everything emitted so far -/
  emitted : List Tr := []
  /-- ghost: the `CeaseFlowTrace` was emitted -/
  ceased : Bool := false
  /-- the process sits at catch event `c` and waits for its event -/
  blocked : Option Nat := none
  /-- `wg.Add(1)` done and the watcher goroutine spawned -/
  counted : Bool := false
  subscribed : Bool := false
  /-- the watcher's subscription channel -/
  queue : List Tr := []
  /-- the watcher has returned (`wg.Done()`) -/
  finished : Bool := false
  /-- ghost: registered with the wait group when `done` was already closed -/
  lateJoin : Bool := false
  /-- ghost: traces emitted while the watcher was not subscribed -/
  missed : List Tr := []
deriving Repr, DecidableEq

/-- a member at the moment its process is started; `reg`: its watcher is already registered with the wait group -/
def Member.fresh (str : List Ev) (origin : Option Nat) (sub reg closed : Bool) : Member :=
  { todo := str, origin := origin, subscribed := sub, counted := reg, lateJoin := reg && closed }

/-- the goroutine a watcher spawns on an `ActiveListeningTrace`: waits for `ready` to be closed, then feeds the
catch event's own definitions to the member process -/
structure Waker where
  c : Nat
  member : Nat
  ready : Bool := false
  done : Bool := false
deriving Repr, DecidableEq

structure Wait where
  /-- the goroutine `wg.Wait(); close(done)` of this call has run -/
  closerDone : Bool := false
  /-- `none` = the caller is still in the `select` -/
  result : Option Bool := none
deriving Repr, DecidableEq

structure State where
  members : List Member := []
  /-- `StartAll`: executable processes not yet started -/
  toStart : List (List Ev)
  /-- `StartAll` has started member `i` and not yet done `wg.Add(1); go tracerProcess` -/
  saPending : Option Nat := none
  /-- `run` has started member `i` (instantiation) and not yet done `wg.Add(1); go tracerProcess` -/
  runPending : Option Nat := none
  wg : Nat := 0
  /-- number of `close(ps.done)` executed without panicking -/
  closes : Nat := 0
  panicked : Bool := false
  /-- `ps.mch`: ids of throw events -/
  mch : List Nat := []
  runAlive : Bool := true
  /-- number of `CeaseProcessSetTrace` sent -/
  ceaseSet : Nat := 0
  /-- `ps.catchCh`: catch event ↦ index of its waker -/
  catches : List (Nat × Nat) := []
  wakers : List Waker := []
  waits : List Wait := []
  /-- ghost: throw events emitted by members, in order -/
  thrown : List Nat := []
  /-- ghost: messages `run` turned into an instantiation of a waiting process -/
  instantiated : List Nat := []
  /-- ghost: messages `run` turned into the wake-up of a listening catch event -/
  woken : List Nat := []
  /-- ghost: messages `run` handled without effect (no message flow, unknown target, catch event not listening) -/
  dropped : List Nat := []
  /-- ghost: a wait was called while `StartAll` had not returned -/
  earlyWait : Bool := false
  /-- ghost: `done` was closed while a throw message was on its way (emitted and not yet fully handled) -/
  closedInFlight : Bool := false
deriving Repr

def init (su : Setup) : State := { toStart := su.execs }

inductive Choice where
  /-- `StartAll` starts the next executable process -/
  | saStart
  /-- `StartAll`: `wg.Add(1); go ps.tracerProcess(...)` for the process it has just started -/
  | saRegister
  /-- member `i` emits its next trace -/
  | proc (i : Nat)
  /-- the watcher of member `i` subscribes -/
  | subscribe (i : Nat)
  /-- the watcher of member `i` handles the next trace of its channel -/
  | watcher (i : Nat)
  /-- `run` takes a message from `mch` -/
  | runMsg
  /-- `run`: `wg.Add(1); go ps.tracerProcess(...)` for the process it has just instantiated -/
  | runRegister
  /-- `run` takes the `<-ps.done` branch -/
  | runDone
  /-- waker `k` sees its channel closed and feeds the event to its process -/
  | waker (k : Nat)
  /-- a caller enters `WaitUntilComplete` (its index is the number of earlier calls) -/
  | waitCall
  /-- `wg.Wait()` of call `w` returns and `close(ps.done)` is executed -/
  | closer (w : Nat)
  /-- call `w` returns `true` -/
  | waitReturn (w : Nat)
  /-- call `w` returns `false` (its context expired) -/
  | waitTimeout (w : Nat)
deriving DecidableEq, Repr

/-- choices of the environment: a caller enters `WaitUntilComplete`, a caller's context expires -/
def Choice.isEnv : Choice → Bool
  | .waitCall => true
  | .waitTimeout _ => true
  | _ => false

/-- a throw message is on its way: emitted by a member and not yet turned into its effect -/
def Member.hasThrowQueued (m : Member) : Bool := m.queue.any (fun t => match t with | .ev (.throw _) => true | _ => false)

def State.inFlight (s : State) : Bool :=
  !s.mch.isEmpty || s.runPending.isSome || s.members.any (·.hasThrowQueued)

/-- `wg.Add(1); go ps.tracerProcess(...)` for member `i` -/
def regMember (ms : List Member) (i : Nat) (closed : Bool) : List Member :=
  match ms[i]? with
  | some m => ms.set i { m with counted := true, lateJoin := closed }
  | none => ms

/-- the next trace of a member process -/
def Member.nextTr (m : Member) : Tr :=
  match m.todo with
  | e :: _ => .ev e
  | [] => .cease

/-- the member emits its next trace: into the watcher's channel if it is subscribed, else lost to it -/
def Member.emit (m : Member) : Member :=
  { m with
    todo := m.todo.tail
    emitted := m.emitted ++ [m.nextTr]
    ceased := decide (m.nextTr = .cease)
    blocked := match m.nextTr with | .ev (.listen c) => some c | _ => none
    queue := if m.subscribed then m.queue ++ [m.nextTr] else m.queue
    missed := if m.subscribed then m.missed else m.missed ++ [m.nextTr] }

def thrownBy : Tr → List Nat
  | .ev (.throw id) => [id]
  | _ => []

/-- the waker's `ConsumeEvent`: the catch event fires and the process goes on -/
def unblock (ms : List Member) (i c : Nat) : List Member :=
  match ms[i]? with
  | some m => if m.blocked = some c then ms.set i { m with blocked := none } else ms
  | none => ms

/-- what `run` does with a throw message -/
inductive Routed where
  /-- instantiate the waiting process with this stream -/
  | inst (str : List Ev)
  /-- close the channel of waker `k`, registered for catch event `c` -/
  | wake (c k : Nat) (wk : Waker)
  /-- nothing: no message flow from this throw event, or its catch event is not listening -/
  | drop
deriving Repr

def route (su : Setup) (s : State) (id : Nat) : Routed :=
  match su.target id with
  | some (.start w) =>
    match su.waitings[w]? with
    | some str => .inst str
    | none => .drop
  | some (.catch_ c) =>
    match s.catches.find? (·.1 == c) with
    | some (_, k) =>
      match s.wakers[k]? with
      | some wk => .wake c k wk
      | none => .drop
    | none => .drop
  | none => .drop

/-- the transition of one choice; `none` = not enabled -/
def next (cfg : Cfg) (su : Setup) (s : State) (c : Choice) : Option State :=
  if s.panicked then none else
  match c with
  | .saStart =>
    match s.toStart, s.saPending with
    | str :: rest, none =>
      some { s with members := s.members ++ [Member.fresh str none cfg.subBeforeStart cfg.addBeforeStart (decide (1 ≤ s.closes))],
                    toStart := rest,
                    wg := s.wg + (if cfg.addBeforeStart then 1 else 0),
                    saPending := if cfg.addBeforeStart then none else some s.members.length }
    | _, _ => none
  | .saRegister =>
    match s.saPending with
    | some i => some { s with members := regMember s.members i (decide (1 ≤ s.closes)), wg := s.wg + 1, saPending := none }
    | none => none
  | .proc i =>
    match s.members[i]? with
    | some m =>
      if m.ceased || m.blocked.isSome then none else
      some { s with members := s.members.set i m.emit, thrown := s.thrown ++ thrownBy m.nextTr }
    | none => none
  | .subscribe i =>
    match s.members[i]? with
    | some m => if m.counted && !m.subscribed then some { s with members := s.members.set i { m with subscribed := true } }
                else none
    | none => none
  | .watcher i =>
    match s.members[i]? with
    | some m =>
      if m.counted && m.subscribed && !m.finished then
        match m.queue with
        | [] => none
        | .ev .tau :: q => some { s with members := s.members.set i { m with queue := q } }
        | .ev (.throw id) :: q => some { s with members := s.members.set i { m with queue := q }, mch := s.mch ++ [id] }
        | .ev (.listen c) :: q =>
          some { s with members := s.members.set i { m with queue := q },
                        catches := (c, s.wakers.length) :: s.catches.filter (·.1 != c),
                        wakers := s.wakers ++ [{ c := c, member := i }],
                        wg := s.wg + 1 }
        | .cease :: q => some { s with members := s.members.set i { m with queue := q, finished := true }, wg := s.wg - 1 }
      else none
    | none => none
  | .runMsg =>
    if s.runAlive && s.runPending.isNone then
      match s.mch with
      | [] => none
      | id :: rest =>
        match route su s id with
        | .inst str =>
          some { s with mch := rest, instantiated := s.instantiated ++ [id],
                        members := s.members ++ [Member.fresh str (some id) cfg.instSubBeforeStart cfg.instAddBeforeStart (decide (1 ≤ s.closes))],
                        wg := s.wg + (if cfg.instAddBeforeStart then 1 else 0),
                        runPending := if cfg.instAddBeforeStart then none else some s.members.length }
        | .wake c k wk =>
          some { s with mch := rest, woken := s.woken ++ [id],
                        catches := s.catches.filter (·.1 != c),
                        wakers := s.wakers.set k { wk with ready := true } }
        | .drop => some { s with mch := rest, dropped := s.dropped ++ [id] }
    else none
  | .runRegister =>
    match s.runPending with
    | some i => some { s with members := regMember s.members i (decide (1 ≤ s.closes)), wg := s.wg + 1, runPending := none }
    | none => none
  | .runDone =>
    if s.runAlive && s.runPending.isNone && decide (1 ≤ s.closes) then
      some { s with runAlive := false, ceaseSet := s.ceaseSet + 1 }
    else none
  | .waker k =>
    match s.wakers[k]? with
    | some wk =>
      if wk.ready && !wk.done then
        some { s with wakers := s.wakers.set k { wk with done := true }, wg := s.wg - 1,
                      members := unblock s.members wk.member wk.c }
      else none
    | none => none
  | .waitCall =>
    some { s with waits := s.waits ++ [{}],
                  earlyWait := s.earlyWait || !s.toStart.isEmpty || s.saPending.isSome }
  | .closer w =>
    match s.waits[w]? with
    | some wt =>
      if !wt.closerDone && s.wg == 0 then
        if s.closes == 0 then
          some { s with waits := s.waits.set w { wt with closerDone := true }, closes := 1, closedInFlight := s.inFlight }
        else if cfg.closeOnce then some { s with waits := s.waits.set w { wt with closerDone := true } }
        else some { s with waits := s.waits.set w { wt with closerDone := true }, panicked := true }
      else none
    | none => none
  | .waitReturn w =>
    match s.waits[w]? with
    | some wt => if wt.result.isNone && decide (1 ≤ s.closes) then
                   some { s with waits := s.waits.set w { wt with result := some true } }
                 else none
    | none => none
  | .waitTimeout w =>
    match s.waits[w]? with
    | some wt => if wt.result.isNone then some { s with waits := s.waits.set w { wt with result := some false } } else none
    | none => none

def enabled (cfg : Cfg) (su : Setup) (s : State) (c : Choice) : Bool := (next cfg su s c).isSome

def step (cfg : Cfg) (su : Setup) (s : State) (c : Choice) : State := (next cfg su s c).getD s

/-- run a schedule from a state -/
def runFrom (cfg : Cfg) (su : Setup) (s : State) (sch : List Choice) : State := sch.foldl (step cfg su) s

def exec (cfg : Cfg) (su : Setup) (sch : List Choice) : State := runFrom cfg su (init su) sch

/-- states reachable under some schedule -/
inductive Reach (cfg : Cfg) (su : Setup) : State → Prop where
  | init : Reach cfg su (init su)
  | step {s : State} (c : Choice) : Reach cfg su s → Reach cfg su (step cfg su s c)

/-- no goroutine of the set can take a step: only the environment can act (a new call, an expiring context) -/
def Quiescent (cfg : Cfg) (su : Setup) (s : State) : Prop := ∀ c, enabled cfg su s c = true → c.isEnv = true

/-- the choices that are not the environment's and whose indices are in range -/
def internalChoices (s : State) : List Choice :=
  [.saStart, .saRegister, .runMsg, .runRegister, .runDone]
  ++ (List.range s.members.length).flatMap (fun i => [.proc i, .subscribe i, .watcher i])
  ++ (List.range s.wakers.length).map .waker
  ++ (List.range s.waits.length).flatMap (fun w => [.closer w, .waitReturn w])

/-- executable form of `Quiescent` -/
def quiescentB (cfg : Cfg) (su : Setup) (s : State) : Bool := (internalChoices s).all (fun c => !enabled cfg su s c)

/-! observations -/

def State.waitResults (s : State) : List (Option Bool) := s.waits.map (·.result)
def State.allCeased (s : State) : Bool := s.members.all (·.ceased)
/-- members created by `run` for throw event `id` -/
def State.instances (s : State) (id : Nat) : Nat := (s.members.filter (·.origin == some id)).length

end Bpmn.Model.ProcessSet
