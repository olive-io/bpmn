import Bpmn.Model.Cond
import Bpmn.Model.Gateway
/-
Layer 2: the engine at the granularity "run every token until it parks" between two driver actions.

One executable semantics, parametric in `Cfg` — the places where the Go engine is known (or could come)
to deviate from BPMN token semantics. `Cfg.ideal` is the specification (the token game); the faithful
configuration is what the code does. Whenever a deviation actually changes behaviour in a run, its name
is logged in `St.causes`, so a run with no logged cause is a run of the token game — under an admissible join policy,
see `Spec/TokenGame` (theorems in Props/C01Conformance).

Tokens (`flow`s in the Go code) carry the numeric id the engine would give them: ids are drawn in the order
`handleAdditionalSequenceFlow` draws them.
-/
namespace Bpmn.Model.Engine
open Bpmn.Model

inductive Kind where
  | start | end_ | task | xor | par | incl | ebg | catch_ | throw_ | sub | boundary | other
deriving Repr, BEq, DecidableEq, Inhabited

structure Node where
  id      : String
  kind    : Kind
  ins     : List String
  outs    : List String
  dflt    : Option String := none
  parent  : String := "-"
  results : List String := []
  hasResults : Bool := false
  retries : Int := 0
deriving Repr, Inhabited

structure SFlow where
  id   : String
  src  : String
  dst  : String
  cond : Cond
deriving Repr, Inhabited

structure Proc where
  nodes : List Node
  flows : List SFlow
deriving Repr, Inhabited

def Proc.node? (p : Proc) (id : String) : Option Node := p.nodes.find? (·.id == id)
def Proc.flow? (p : Proc) (id : String) : Option SFlow := p.flows.find? (·.id == id)

/-- where the code deviates (true = behave like the code does today) -/
structure Cfg where
  /-- D1: an activity's FIRST listed outgoing flow decides whether the token leaves; if it is not effective
      but a later one is, the token stays and the activity is requested again -/
  firstFlowDecides : Bool
  /-- D10: the parent token never leaves an embedded sub-process -/
  subNeverReturns : Bool
  /-- inclusive gateways synchronise on the tracker's cohort (all live flows recorded with the same origin)
      instead of on the tokens that can still reach the gateway -/
  inclCohort : Bool
  /-- start events of a sub-process stay `activated` after the first activation (re-entry completes at once) -/
  subStartSticky : Bool
  /-- scheduling variant of the code (not a deviation): inclusive gateways re-evaluate their cohort as soon as
      a sibling token terminates, before tokens released in the same step have travelled on. The real engine
      exhibits both orders (tracker notification races with the released token). -/
  eagerSettle : Bool := false
  /-- specification variant (not a deviation): the property allows an inclusive join to release anywhere between
      "every activated branch that leads to it has delivered" (`false`, reachability) and "every token of that
      fork activation has arrived or ended" (`true`, lineage tags) -/
  lateJoin : Bool := false
  /-- D38: an intermediate throw event lets only the FIRST token that reaches it pass; later tokens are consumed
      there (the node answers `completeAction` once its `activated` flag is set, like a fused end event) -/
  throwFuse : Bool := false
deriving Repr, BEq, DecidableEq

def Cfg.ideal : Cfg := ⟨false, false, false, false, false, false, false⟩
def Cfg.idealLate : Cfg := ⟨false, false, false, false, false, true, false⟩

inductive Obs where
  | req (node : String)
  | complete (node : String)
  | err (cls : String)
deriving Repr, BEq, DecidableEq

structure Tok where
  fid  : Nat
  node : String
deriving Repr, BEq, DecidableEq

/-- per inclusive gateway: Go fields `activated`, `arrived`, `sync`, `synchronized` -/
structure IgSt where
  gw : String
  activated : Option Nat := none
  arrived : List Nat := []
  sync : List Nat := []          -- tokens whose reply channel is in `gw.sync`, in order
deriving Repr, BEq

structure St where
  vars    : Vars
  nextFid : Nat := 1
  /-- tokens waiting for a task answer: (token, occurrence number of that node) -/
  pending : List (Tok × Nat) := []
  /-- tokens parked at a parallel gateway, arrival order -/
  pg      : List (String × List Nat) := []
  ig      : List IgSt := []
  /-- tokens parked for ever (exclusive/inclusive gateway without effective flow) or at a catch event -/
  parked  : List Tok := []
  /-- parent tokens inside a sub-process node -/
  subs    : List Tok := []
  /-- sub-process nodes whose (single) completion monitor has already fired -/
  subFired : List String := []
  /-- start / end nodes already `activated` -/
  activated : List String := []
  /-- lineage: token ↦ stack of inclusive-fork activation ids it descends from (innermost first) -/
  tags    : List (Nat × List Nat) := []
  /-- tracker picture: token ↦ node recorded as its origin -/
  origin  : List (Nat × String) := []
  occ     : List (String × Nat) := []
  retry   : List (Nat × Int) := []     -- per token: attempts made (Go: `f.retry.attempts`)
  obs     : List Obs := []
  causes  : List String := []
  /-- set when the model leaves its domain (fuel, malformed program) -/
  outOfScope : Option String := none
deriving Repr

def St.emit (s : St) (o : Obs) : St := { s with obs := s.obs ++ [o] }
def St.cause (s : St) (c : String) : St := if s.causes.contains c then s else { s with causes := s.causes ++ [c] }
def St.oos (s : St) (why : String) : St := if s.outOfScope.isSome then s else { s with outOfScope := some why }

def St.tagsOf (s : St) (f : Nat) : List Nat := ((s.tags.find? (·.1 == f)).map (·.2)).getD []
def St.setTags (s : St) (f : Nat) (ts : List Nat) : St := { s with tags := (s.tags.filter (·.1 != f)) ++ [(f, ts)] }
/-- forked tokens inherit the lineage of the token that forked them -/
def St.inherit (s : St) (parent : Nat) (kids : List Nat) : St :=
  let ts := s.tagsOf parent
  kids.foldl (fun s k => s.setTags k ts) s

def St.liveIds (s : St) : List Nat :=
  s.pending.map (·.1.fid) ++ (s.pg.flatMap (·.2)) ++ s.parked.map (·.fid) ++ s.subs.map (·.fid)

/-- tracker: FlowTrace from `src` naming tokens `fids` -/
def St.recordFlow (s : St) (p : Proc) (src : String) (fids : List Nat) : St :=
  let isIncl := (p.node? src).map (·.kind == .incl) |>.getD false
  let origin := fids.foldl (fun o f =>
    if isIncl || !(o.any (·.1 == f)) then (o.filter (·.1 != f)) ++ [(f, src)] else o) s.origin
  { s with origin }

def St.recordTerm (s : St) (fid : Nat) : St := { s with origin := s.origin.filter (·.1 != fid) }

/-- evaluate one sequence flow for a token: `(flows?, state with error obs)` -/
def evalFlow (p : Proc) (s : St) (fl : String) (unconditional : Bool) : Bool × St :=
  if unconditional then (true, s) else
  match p.flow? fl with
  | none => (false, s.emit (.err "notfounderror"))
  | some f =>
    match f.cond.eval s.vars with
    | .yes => (true, s)
    | .no => (false, s)
    | .error => (false, s.emit (.err "condition"))

/-- evaluate a list of flows left to right, threading error observations -/
def evalFlows (p : Proc) (s : St) (fls : List String) (unconditional : Bool) : List (String × Bool) × St :=
  fls.foldl (fun (acc, s) fl => let (b, s) := evalFlow p s fl unconditional; (acc ++ [(fl, b)], s)) ([], s)

def flowDst (p : Proc) (fl : String) : String := (p.flow? fl).map (·.dst) |>.getD "?"

/-- `handleAdditionalSequenceFlow` for each flow: a fresh token id per forked flow, in list order -/
def forkToks (p : Proc) (s : St) (fls : List String) : List Tok × St :=
  fls.foldl (fun (acc, s) fl =>
    (acc ++ [({ fid := s.nextFid, node := flowDst p fl } : Tok)], { s with nextFid := s.nextFid + 1 })) ([], s)

/-- The `flowAction` branch of `flow.Start`: the token `t` leaves node `t.node` through `fls`.
Returns the tokens to continue with (the token itself first if it moves) and the new state.
`stay = true` means the token did not move and the loop calls `NextAction` again. -/
def selectFlows (cfg : Cfg) (p : Proc) (s : St) (t : Tok) (fls : List String) (unconditional : Bool) :
    List Tok × Bool × St :=
  match fls with
  | [] => ([], false, s.recordTerm t.fid)              -- "nowhere to flow, abort" (no termination trace)
  | first :: rest =>
    let (ev, s) := evalFlows p s (first :: rest) unconditional
    let effective := ev.filter (·.2) |>.map (·.1)
    match effective with
    | [] => ([], false, s.recordTerm t.fid)            -- TerminationTrace
    | e0 :: es =>
      let firstOk := (ev.head?.map (·.2)).getD false
      if cfg.firstFlowDecides && !firstOk then
        -- D1: the current token stays; every effective flow is forked
        let s := s.cause "first_flow_not_effective"
        let (toks, s) := forkToks p s (e0 :: es)
        let s := (s.recordFlow p t.node (toks.map (·.fid))).inherit t.fid (toks.map (·.fid))
        (toks, true, s)
      else
        let me : Tok := { t with node := flowDst p e0 }
        let (toks, s) := forkToks p s es
        let s := (s.recordFlow p t.node (t.fid :: toks.map (·.fid))).inherit t.fid (toks.map (·.fid))
        (me :: toks, false, s)

def bumpOcc (s : St) (n : String) : Nat × St :=
  let k := ((s.occ.find? (·.1 == n)).map (·.2)).getD 0 + 1
  (k, { s with occ := (s.occ.filter (·.1 != n)) ++ [(n, k)] })

/-- tokens of scope `sub` that are still alive -/
def liveInScope (p : Proc) (s : St) (sub : String) (work : List Tok) : Bool :=
  let inScope (n : String) : Bool := (p.node? n).map (·.parent == sub) |>.getD false
  s.pending.any (fun q => inScope q.1.node) || s.parked.any (fun t => inScope t.node)
    || s.subs.any (fun t => inScope t.node) || work.any (fun t => inScope t.node)
    || s.pg.any (fun q => inScope q.1 && !q.2.isEmpty)
    || s.ig.any (fun g => inScope g.gw && g.activated.isSome)

/-- ideal inclusive join: can some live token outside the gateway still reach it? -/
def reach (p : Proc) (target : String) : Nat → List String → List String → Bool
  | 0, _, _ => true     -- out of fuel: be conservative (treated as "can reach")
  | _, [], _ => false
  | fuel + 1, n :: todo, seen =>
    if n == target then true
    else if seen.contains n then reach p target fuel todo seen
    else
      let next := ((p.node? n).map (·.outs)).getD [] |>.map (flowDst p)
      reach p target fuel (next ++ todo) (n :: seen)

def canReach (p : Proc) (src target : String) : Bool :=
  let next := ((p.node? src).map (·.outs)).getD [] |>.map (flowDst p)
  reach p target (4 * p.nodes.length + 8) next []

/-- does some live token (not at `gw`) still have a path to `gw`, or is one just arriving on an incoming flow? -/
def upstreamLive (p : Proc) (s : St) (gw : String) (work : List Tok) (arrived : List Nat) : Bool :=
  let others : List Tok := (s.pending.map (·.1)) ++ s.parked ++ s.subs ++ work ++
    (s.pg.flatMap (fun q => q.2.map (fun f => ({ fid := f, node := q.1 } : Tok)))) ++
    (s.ig.flatMap (fun g => if g.gw == gw then [] else (g.arrived.map (fun f => ({ fid := f, node := g.gw } : Tok)))))
  others.any (fun t => !arrived.contains t.fid && t.node != gw && canReach p t.node gw)
    -- a token of the work list that stands at `gw` without having been registered there is ON an incoming flow
    -- (only under `eagerSettle`; otherwise the work list is empty whenever gateways are evaluated)
    || work.any (fun t => !arrived.contains t.fid && t.node == gw)

def igGet (s : St) (gw : String) : IgSt := (s.ig.find? (·.gw == gw)).getD { gw }
def igSet (s : St) (g : IgSt) : St := { s with ig := (s.ig.filter (·.gw != g.gw)) ++ [g] }

/-- The reply of an inclusive gateway once it has synchronised (`gatewayProbingReport`): distribute the
chosen flows over `sync ++ [activated]`. Returns tokens to continue. -/
def igRelease (p : Proc) (s : St) (n : Node) (g : IgSt) : List Tok × St :=
  let act := g.activated.getD 0
  let nonDefault := n.outs.filter (fun f => some f != n.dflt)
  let (ev, s) := evalFlows p s nonDefault false
  let chosen := Gateway.igDecide ev n.dflt
  let s := igSet s { gw := n.id }
  if chosen.isEmpty then
    -- error trace; nobody is answered: every waiting token stays parked for ever
    let s := s.emit (.err "noeffective-inclusive")
    let waiting := g.sync ++ [act]
    ([], { s with parked := s.parked ++ waiting.map (fun f => ({ fid := f, node := n.id } : Tok)) })
  else
    let waiting := g.sync ++ [act]
    let replies := Gateway.distribute waiting.length chosen.length
    -- lineage: the tokens leaving belong to a new fork activation; the activation that is joined here is popped
    let tagId := s.nextFid
    let s := { s with nextFid := s.nextFid + 1 }
    let base := (s.tagsOf act).drop 1
    let s := waiting.foldl (fun s f => s.setTags f (tagId :: base)) s
    -- each waiting token gets its slice of `chosen` (unconditional) or completes
    (waiting.zip replies).foldl (fun (acc, s) (f, r) =>
      match r with
      | .complete => (acc, (s.emit (.complete n.id)).recordTerm f)
      | .flows lo hi =>
        let fls := (chosen.drop lo).take (hi - lo)
        match fls with
        | [] => (acc, s.recordTerm f)
        | e0 :: es =>
          let me : Tok := { fid := f, node := flowDst p e0 }
          let (toks, s) := forkToks p s es
          let s := (s.recordFlow p n.id (f :: toks.map (·.fid))).inherit f (toks.map (·.fid))
          (acc ++ me :: toks, s)) ([], s)

/-- cohort of a token in the tracker's picture -/
def cohort (s : St) (f : Nat) : List Nat :=
  match s.origin.find? (·.1 == f) with
  | none => []
  | some (_, loc) => s.origin.filter (·.2 == loc) |>.map (·.1)

/-- all live tokens (with where they are) -/
def St.liveToks (s : St) (work : List Tok) : List Tok :=
  (s.pending.map (·.1)) ++ s.parked ++ s.subs ++ work ++
    (s.pg.flatMap (fun q => q.2.map (fun f => ({ fid := f, node := q.1 } : Tok)))) ++
    (s.ig.flatMap (fun g => g.arrived.map (fun f => ({ fid := f, node := g.gw } : Tok))))

/-- late bound: every live token descending from the fork activation the activating token belongs to has arrived -/
def lateReady (s : St) (a : Nat) (arrived : List Nat) (work : List Tok) : Bool :=
  match (s.tagsOf a).head? with
  | none => true
  | some tag => (s.liveToks work).all (fun t => !(s.tagsOf t.fid).contains tag || arrived.contains t.fid)

/-- the latest allowed release point of gateway `n`: a gateway with at most one incoming flow is a pure fork — the
property has no join clause for it, it must forward the token at once, so its late bound is vacuous (the interval
collapses to `early`); with two or more incoming flows it is the lineage bound `lateReady` -/
def lateAt (s : St) (n : Node) (a : Nat) (arrived : List Nat) (work : List Tok) : Bool :=
  n.ins.length ≤ 1 || lateReady s a arrived work

/-- may the inclusive gateway `n` synchronise now? (`trySync`) -/
def igReady (cfg : Cfg) (p : Proc) (s : St) (n : Node) (g : IgSt) (work : List Tok) : Bool × St :=
  match g.activated with
  | none => (false, s)
  | some a =>
    -- (a token that descends from NO inclusive fork activation joins nothing: the property's join clause is about the
    -- branches of a fork activation — "no earlier than when every activated branch that leads to it has delivered" — and
    -- such a token has none; so the earliest allowed point is "at once", as the latest one (`lateReady`). Tokens of one fork
    -- activation are waited for however they reach the gateway — also over ONE shared incoming flow, merged upstream.)
    let early := (s.tagsOf a).isEmpty || !upstreamLive p s n.id work g.arrived
    let late := lateAt s n a g.arrived work
    if cfg.inclCohort then
      let awaiting := cohort s a
      let codeReady := awaiting.all (g.arrived.contains ·)
      -- a deviation: released before the earliest allowed point, or still waiting at the latest allowed one
      let dev := (codeReady && !early) || (!codeReady && late && early)
      (codeReady, if dev then s.cause "inclusive_cohort" else s)
    else if cfg.lateJoin then (late && early, s)
    else (early, s)

/-- one fresh token at each of the given start events, in list order -/
def spawnStarts (s : St) (starts : List Node) : List Tok × St :=
  starts.foldl (fun (acc, s) m =>
    (acc ++ [({ fid := s.nextFid, node := m.id } : Tok)], { s with nextFid := s.nextFid + 1 })) ([], s)

/-- Token `t` enters sub-process node `n` whose inner start events are `starts`: the state before the inner
tokens are created. -/
def enterSub (cfg : Cfg) (s : St) (t : Tok) (n : Node) (starts : List Node) : St :=
  -- the code creates the completion monitor once per sub-process node and never re-arms the inner start
  -- events: on a second activation the inner tokens complete at once and nobody announces the end, so the
  -- parent token waits for ever
  let again := cfg.subStartSticky && s.subFired.contains n.id
  let s := if again then { (s.cause "sub_reentry") with parked := s.parked ++ [t] }
           else { s with subs := s.subs ++ [t] }
  -- the token game re-arms the inner start events; the code does not: whenever one of them is still
  -- `activated` (also when the monitor has not fired, e.g. left over in the state the run starts from),
  -- the inner token will complete at once — that is the same deviation and it is logged
  if cfg.subStartSticky then
    (if s.activated.any (fun a => starts.any (·.id == a)) then s.cause "sub_reentry" else s)
  else { s with activated := s.activated.filter (fun a => !starts.any (·.id == a)) }

/-- Arrival of token `t` at its node: returns tokens that continue to run, and the new state. -/
def arrive (cfg : Cfg) (p : Proc) (s : St) (t : Tok) : List Tok × St :=
  match p.node? t.node with
  | none => ([], s.oos s!"unknown node {t.node}")
  | some n =>
    match n.kind with
    | .task =>
      let (k, s) := bumpOcc s n.id
      ([], { (s.emit (.req n.id)) with pending := s.pending ++ [(t, k)] })
    | .start =>
      if s.activated.contains n.id then ([], (s.emit (.complete n.id)).recordTerm t.fid)
      else
        let s := { s with activated := n.id :: s.activated }
        let (toks, stay, s) := selectFlows cfg p s t n.outs false
        (if stay then t :: toks else toks, s)
    | .end_ =>
      ([], ({ s with activated := if s.activated.contains n.id then s.activated else n.id :: s.activated }.emit
        (.complete n.id)).recordTerm t.fid)
    | .xor =>
      let nonDefault := n.outs.filter (fun f => some f != n.dflt)
      let (ev, s) := evalFlows p s nonDefault false
      match Gateway.xgDecide ev n.dflt with
      | .take fl => let (toks, _, s) := selectFlows cfg p s t [fl] true; (toks, s)
      | .error => ([], { (s.emit (.err "noeffective-exclusive")) with parked := s.parked ++ [t] })
    | .par =>
      let cur := ((s.pg.find? (·.1 == n.id)).map (·.2)).getD []
      let cur := cur ++ [t.fid]
      if cur.length == n.ins.length || (n.ins.isEmpty && cur.length == 1) then
        let s := { s with pg := s.pg.filter (·.1 != n.id) }
        let replies := Gateway.distribute cur.length n.outs.length
        let pairs := cur.zip replies
        -- the consumed tokens terminate concurrently with the released ones travelling on: under
        -- `eagerSettle` their termination is seen first
        let pairs := if cfg.eagerSettle then pairs.filter (·.2 == .complete) ++ pairs.filter (·.2 != .complete) else pairs
        pairs.foldl (fun (acc, s) (f, r) =>
          match r with
          | .complete => (acc, (s.emit (.complete n.id)).recordTerm f)
          | .flows lo hi =>
            let fls := (n.outs.drop lo).take (hi - lo)
            let (toks, _, s) := selectFlows cfg p s { fid := f, node := n.id } fls true
            (acc ++ toks, s)) ([], s)
      else ([], { s with pg := (s.pg.filter (·.1 != n.id)) ++ [(n.id, cur)] })
    | .incl =>
      let g := igGet s n.id
      match g.activated with
      | none => ([], igSet s { g with activated := some t.fid, arrived := [t.fid], sync := [] })
      | some _ => ([], igSet s { g with arrived := g.arrived ++ [t.fid], sync := g.sync ++ [t.fid] })
    | .sub =>
      -- subprocess.go: the inner nodes exist once per node, activations take turns (`sp.activation`): a token that
      -- arrives while another one is inside waits at the node and enters when that activation has returned
      if s.subs.any (·.node == n.id) then ([], { s with parked := s.parked ++ [t] })
      else
        let starts := p.nodes.filter (fun m => m.parent == n.id && m.kind == .start)
        spawnStarts (enterSub cfg s t n starts) starts
    | .throw_ =>
      -- event_throw.go: every token that reaches the event gets `flowAction` over all outgoing flows (the throw
      -- itself is the FlowTrace the token leaves with); with `throwFuse` only the first one does
      if cfg.throwFuse && s.activated.contains n.id then
        ([], (((s.cause "throw_fused").emit (.complete n.id)).recordTerm t.fid))
      else
        let s := { s with activated := if s.activated.contains n.id then s.activated else n.id :: s.activated }
        let (toks, stay, s) := selectFlows cfg p s t n.outs false
        (if stay then t :: toks else toks, s)
    | _ => ([], { s with parked := s.parked ++ [t] })

/-- subprocess.go `sp.activation`: when an activation of sub-process node `node` has returned (tokens `out` travel on), the
next token waiting at that node takes its turn -/
def nextTurn (s : St) (node : String) (out : List Tok) : List Tok × St :=
  match s.parked.find? (·.node == node) with
  | none => (out, s)
  | some w => (out ++ [w], { s with parked := s.parked.filter (· != w) })

/-- let one inclusive gateway that may synchronise do so (`trySync` + probing report) -/
def settleIncl (cfg : Cfg) (p : Proc) (s : St) (work : List Tok) : Option (List Tok) × St :=
  let igs := p.nodes.filter (·.kind == .incl)
  igs.foldl (fun (acc : Option (List Tok) × St) n =>
    match acc with
    | (some x, s) => (some x, s)
    | (none, s) =>
      let g := igGet s n.id
      let (ready, s') := igReady cfg p s n g work
      if ready then (let (toks, s'') := igRelease p s' n g; (some toks, s'')) else (none, s')) (none, s)

/-- after the work list is empty: let inclusive gateways synchronise and finished sub-processes return -/
def settle (cfg : Cfg) (p : Proc) (s : St) : List Tok × St :=
  let (r, s) := settleIncl cfg p s []
  match r with
  | some x => (x, s)
  | none =>
    -- sub-processes whose inner scope is empty
    let done := s.subs.find? (fun t => !liveInScope p s t.node [])
    match done with
    | none => ([], s)
    | some t =>
      if cfg.subNeverReturns then
        -- the inner monitor announces the end of `t.node` on the tracer of the ENCLOSING scope; the token
        -- inside `t.node` waits for ever. If the enclosing scope is itself a sub-process that is running,
        -- it takes the announcement for its own and returns to ITS parent.
        let s := (s.cause "sub_parent_never_resumes")
        let s := { s with subs := s.subs.filter (· != t), parked := s.parked ++ [t] }
        let encl := ((p.node? t.node).map (·.parent)).getD "-"
        match s.subs.find? (·.node == encl), p.node? encl with
        | some u, some un =>
          let s := { (s.cause "sub_cease_taken_by_enclosing") with subs := s.subs.filter (· != u) }
          let (toks, stay, s) := selectFlows cfg p s u un.outs false
          if stay then ([u] ++ toks, s) else (toks, s)
        | _, _ => ([], s)
      else
        let s := { s with subs := s.subs.filter (· != t),
                          subFired := if s.subFired.contains t.node then s.subFired else t.node :: s.subFired }
        match p.node? t.node with
        | none => ([], s)
        | some n =>
          let (toks, stay, s) := selectFlows cfg p s t n.outs false
          nextTurn s t.node (if stay then [t] ++ toks else toks)

/-- run the work list until every token is parked -/
def runWork (cfg : Cfg) (p : Proc) : Nat → List Tok → St → St
  | 0, _, s => s.oos "fuel"
  | fuel + 1, [], s =>
    let (toks, s') := settle cfg p s
    if toks.isEmpty && s'.causes.length == s.causes.length && s'.obs.length == s.obs.length
        && s'.ig == s.ig && s'.subs.length == s.subs.length then s'
    else runWork cfg p fuel toks s'
  | fuel + 1, t :: rest, s =>
    let (toks, s) := arrive cfg p s t
    if cfg.eagerSettle then
      match settleIncl cfg p s (rest ++ toks) with
      | (some rel, s) => runWork cfg p fuel (rel ++ rest ++ toks) s
      | (none, s) => runWork cfg p fuel (rest ++ toks) s
    else runWork cfg p fuel (rest ++ toks) s

def fuelFor (p : Proc) : Nat := 200 * (p.nodes.length + 5)

/-- `StartAll`: one token at every top-level start event -/
def start (cfg : Cfg) (p : Proc) (vars : Vars) : St :=
  let starts := p.nodes.filter (fun n => n.kind == .start && n.parent == "-")
  let s : St := { vars }
  let (toks, s) := spawnStarts s starts
  runWork cfg p (fuelFor p) toks s

inductive Answer where
  | ok (results : List (String × Int))
  | err (mode : Nat) (retries : Int)      -- mode 0 none, 1 retry, 2 skip, 3 exit
deriving Repr

/-- keep only declared result names (`ApplyTaskResult`) -/
def applyDeclared (n : Node) (vars : Vars) (results : List (String × Int)) : Vars :=
  if !n.hasResults then vars else
  n.results.foldl (fun vs name =>
    match results.find? (·.1 == name) with
    | some (_, v) => vs.set name v
    | none => vs) vars

/-- A driver answers request `(node, occ)`. -/
def answer (cfg : Cfg) (p : Proc) (s : St) (node : String) (occ : Nat) (a : Answer) : St :=
  let s := { s with obs := [] }
  match s.pending.find? (fun q => q.1.node == node && q.2 == occ), p.node? node with
  | some (t, k), some n =>
    let s := { s with pending := s.pending.filter (· != (t, k)) }
    let continueFlow (s : St) : St :=
      let (toks, stay, s) := selectFlows cfg p s t n.outs false
      runWork cfg p (fuelFor p) (if stay then t :: toks else toks) s
    match a with
    | .ok results => continueFlow { s with vars := applyDeclared n s.vars results }
    | .err mode retries =>
      let s := s.emit (.err "taskexecerror")
      match mode with
      | 1 =>
        -- retry: limit := handler.Retries; continue while limit == -1 or limit > attempts
        let attempts := ((s.retry.find? (·.1 == t.fid)).map (·.2)).getD 0
        if retries == -1 || retries > attempts then
          let s := { s with retry := (s.retry.filter (·.1 != t.fid)) ++ [(t.fid, attempts + 1)] }
          runWork cfg p (fuelFor p) [t] s
        else runWork cfg p (fuelFor p) [] (s.recordTerm t.fid)
      | 3 => runWork cfg p (fuelFor p) [] (s.recordTerm t.fid)
      | _ => continueFlow s
  | _, _ => s.oos s!"answer to unknown request {node} {occ}"

/-- top-level tokens still alive -/
def St.topLive (p : Proc) (s : St) : Bool := liveInScope p s "-" []

end Bpmn.Model.Engine
