import Bpmn.Model.EventGateway
/-!
Invariants and progress measure of the event-gateway model (`Bpmn.Model.EventGateway`), for every value of the facts.

A label changes the state at one index (`upd`). The flow-side invariant `InvA` therefore needs three lemmas only: a
flow moves and stays on its side of the compare-and-swap (`InvA.move`), the winner closes the channel its loop is at
(`InvA.close`), nothing the invariant reads changes (`InvA.frame`); the winning compare-and-swap is proved field by
field in `invA_step`. The node-side invariant `InvN` is pointwise (`NodeInv`, one node on plain values), so its step
lemma is one small lemma per transition of a node. `fire_flows` says once which flow a step can move. Capacities enter
`enabled` only as upper bounds, so a strict run survives larger ones (`run_mono`): witnesses are evaluated at 0/1.
-/
namespace Bpmn.Model.EventGateway

theorem exec_nil (c : Cfg) (s : St) : exec c s [] = s := rfl

theorem exec_cons (c : Cfg) (s : St) (l : Lbl) (ls : List Lbl) :
    exec c s (l :: ls) = exec c (if enabled c s l then fire c s l else s) ls := by
  simp only [exec, List.foldl_cons, step]
  split <;> rfl

theorem exec_append (c : Cfg) (s : St) (a b : List Lbl) : exec c s (a ++ b) = exec c (exec c s a) b := by
  simp [exec, List.foldl_append]

theorem exec_induct (c : Cfg) (P : St → Prop)
    (hstep : ∀ s l, P s → enabled c s l = true → P (fire c s l)) :
    ∀ (sch : List Lbl) (s : St), P s → P (exec c s sch) := by
  intro sch
  induction sch with
  | nil => exact fun _ h => h
  | cons l ls ih =>
    intro s h
    rw [exec_cons]
    split
    · next he => exact ih _ (hstep s l h he)
    · exact ih _ h

theorem run_eq_exec (c : Cfg) : ∀ (sch : List Lbl) (s s' : St), run c s sch = some s' → exec c s sch = s' := by
  intro sch
  induction sch with
  | nil => exact fun _ _ h => Option.some.inj h
  | cons l ls ih =>
    intro s s' h
    simp only [run, step] at h
    rw [exec_cons]
    by_cases he : enabled c s l = true
    · simp only [he, if_true, Option.bind_some] at h ⊢
      exact ih _ _ h
    · simp [he] at h

/-- `c'` has the facts of `c` with capacities at least as large, a zero capacity (a rendezvous) staying zero -/
structure CapLe (c c' : Cfg) : Prop where
  k : c'.k = c.k
  mapReplaced : c'.mapReplaced = c.mapReplaced
  termCap : c.termCap ≤ c'.termCap
  termCap0 : c.termCap = 0 → c'.termCap = 0
  replyCap : c.replyCap ≤ c'.replyCap
  replyCap0 : c.replyCap = 0 → c'.replyCap = 0
  inboxCap : c.inboxCap ≤ c'.inboxCap

/-- a capacity stays as it is (`capSame`), or the run was evaluated at 1 and it is at least that (`capOne`) -/
theorem capSame (n : Nat) : n ≤ n ∧ (n = 0 → n = 0) := ⟨Nat.le_refl n, id⟩

theorem capOne {n : Nat} (h : 1 ≤ n) : 1 ≤ n ∧ (1 = 0 → n = 0) := ⟨h, nofun⟩

theorem CapLe.of {k tc tc' rc rc' ib ib' : Nat} {mr : Bool} (ht : tc ≤ tc' ∧ (tc = 0 → tc' = 0))
    (hr : rc ≤ rc' ∧ (rc = 0 → rc' = 0)) (hib : ib ≤ ib') : CapLe ⟨k, tc, mr, rc, ib⟩ ⟨k, tc', mr, rc', ib'⟩ :=
  ⟨rfl, rfl, ht.1, ht.2, hr.1, hr.2, hib⟩

theorem step_mono {c c' : Cfg} (h : CapLe c c') (s : St) (l : Lbl) (he : enabled c s l = true) :
    enabled c' s l = true ∧ fire c' s l = fire c s l := by
  have ht : (c'.termCap = 0) = (c.termCap = 0) := propext ⟨fun e => by have := h.termCap; omega, h.termCap0⟩
  have hr : (c'.replyCap = 0) = (c.replyCap = 0) := propext ⟨fun e => by have := h.replyCap; omega, h.replyCap0⟩
  have h1 := h.termCap
  have h2 := h.replyCap
  have h3 := h.inboxCap
  refine ⟨?_, by cases l <;> simp only [fire, h.k, h.mapReplaced, ht, hr]⟩
  cases l <;> simp only [enabled, allClosed, h.k, ht, hr, Bool.and_eq_true, decide_eq_true_eq] at he ⊢
  case enterSelect | forward => exact ⟨he.1, by omega⟩
  case send | notify =>
    refine ⟨he.1, ?_⟩
    have := he.2
    split at this
    · next h0 => rw [if_pos h0]; exact this
    · next h0 => rw [if_neg h0]; simp only [decide_eq_true_eq] at this ⊢; omega
  all_goals exact he

theorem run_mono {c c' : Cfg} (h : CapLe c c') : ∀ (sch : List Lbl) (s s' : St), run c s sch = some s' →
    run c' s sch = some s' := by
  intro sch
  induction sch with
  | nil => exact fun _ _ e => e
  | cons l ls ih =>
    intro s s' e
    simp only [run, step] at e ⊢
    by_cases he : enabled c s l = true
    · rw [if_pos he, Option.bind_some] at e
      rw [if_pos (step_mono h s l he).1, Option.bind_some, (step_mono h s l he).2]
      exact ih _ _ e
    · rw [if_neg he] at e; cases e

theorem run_witness {c c' : Cfg} (h : CapLe c c') {sch : List Lbl} {P : St → Prop} [DecidablePred P]
    (hr : (run c (init c) sch).any (fun s => decide (P s)) = true) : ∃ s, run c' (init c') sch = some s ∧ P s := by
  obtain ⟨s, hs, hp⟩ := (Option.any_eq_true _ _).mp hr
  have hi : init c' = init c := by simp only [init, h.k]
  exact ⟨s, hi ▸ run_mono h _ _ _ hs, of_decide_eq_true hp⟩

theorem mem_labels_of_enabled (c : Cfg) (s : St) (l : Lbl) (hl : l.isInput = false) (he : enabled c s l = true) :
    l ∈ labels c s := by
  cases l <;> simp only [enabled, Bool.and_eq_true, decide_eq_true_eq] at he
  case deliver => cases hl
  all_goals simp [labels, he]

theorem terminal_of_enabledLabels (c : Cfg) (s : St) (h : enabledLabels c s = []) : terminal c s := by
  intro l hl
  cases he : enabled c s l
  · rfl
  · have : l ∈ enabledLabels c s := List.mem_filter.mpr ⟨mem_labels_of_enabled c s l hl he, he⟩
    rw [h] at this; cases this

/-- a capacity matters only to an actor waiting on it: a flow about to register or a delivery (inbox), a node in
its send (reply channel), a winner in its loop (termination channel) -/
theorem terminal_caps {c c' : Cfg} {s : St} (h : terminal c s) (hk : c'.k = c.k)
    (hib : c'.inboxCap = c.inboxCap ∨ ((∀ i, i < c.k → s.pc i ≠ .starting) ∧ s.dels = []))
    (hrc : c'.replyCap = c.replyCap ∨ ∀ j, j < c.k → s.npc j ≠ .sending)
    (htc : c'.termCap = c.termCap ∨ ∀ i, i < c.k → s.pc i ≠ .notifying) : terminal c' s := by
  intro l hl
  cases he : enabled c' s l
  · rfl
  have : enabled c s l = true := by
    cases l <;> simp only [enabled, allClosed, hk, Bool.and_eq_true, decide_eq_true_eq] at he ⊢
    case enterSelect i => exact hib.elim (fun e => e ▸ he) (fun e => absurd he.1.2 (e.1 i he.1.1))
    case forward d => exact hib.elim (fun e => e ▸ he) (fun e => by rw [e.2] at he; cases he.1.1)
    case send j => exact hrc.elim (fun e => e ▸ he) (fun e => absurd he.1.2 (e j he.1.1))
    case notify i t =>
      have ⟨⟨⟨⟨⟨hik, _⟩, _⟩, hpc⟩, _⟩, _⟩ := he
      exact htc.elim (fun e => e ▸ he) (fun e => absurd hpc (e i hik))
    all_goals exact he
  rw [h l hl] at this; cases this

theorem upd_cases {α : Type} (f : Nat → α) (i : Nat) (v : α) (j : Nat) :
    upd f i v j = f j ∨ (j = i ∧ upd f i v j = v) := by
  by_cases h : j = i
  · exact Or.inr ⟨h, h ▸ upd_same f i v⟩
  · exact Or.inl (upd_other f i j v h)

theorem upd_eq_ne {α : Type} {f : Nat → α} {i j : Nat} {v a : α} (hv : v ≠ a) (e : upd f i v j = a) :
    j ≠ i ∧ f j = a := by
  by_cases h : j = i
  · subst h; rw [upd_same] at e; exact absurd e hv
  · rw [upd_other _ _ _ _ h] at e; exact ⟨h, e⟩

theorem lt_k_upd {f : Nat → Pc} {k i : Nat} {v : Pc} (h : ∀ j, f j ≠ .starting → j < k) (hi : i < k) :
    ∀ j, upd f i v j ≠ .starting → j < k := by
  intro j hj
  rcases upd_cases f i v j with e | ⟨e, _⟩
  · exact h j (e ▸ hj)
  · exact e ▸ hi

theorem forall_lt_two {P : Nat → Prop} (h0 : P 0) (h1 : P 1) : ∀ i, i < 2 → P i
  | 0, _ => h0
  | 1, _ => h1

theorem ite_app {α β : Type} (p : Prop) [Decidable p] (f g : α → β) (a : α) :
    (if p then f else g) a = if p then f a else g a := by
  split <;> rfl

theorem allClosed_iff (c : Cfg) (s : St) : allClosed c s = true ↔ ∀ t, t < c.k → s.closed t = true := by
  simp [allClosed, List.all_eq_true]

structure InvA (c : Cfg) (s : St) : Prop where
  lt_k : ∀ i, s.pc i ≠ .starting → i < c.k
  first_w : ∀ w, s.first = some w → (s.pc w).won = true
  won_first : ∀ i, (s.pc i).won = true → s.first = some i
  compl : ∀ i, s.pc i = .completed → s.first ≠ none
  /-- the channel the winner's loop is at is still open (so closing it is progress: `mu_decreases`) -/
  tgt : ∀ t, s.target = some t → t < c.k ∧ s.closed t = false ∧ s.first ≠ none
  /-- the winner leaves its loop only when every channel is closed: every loser has its `true` coming -/
  cont_closed : ∀ w, s.pc w = .continued → ∀ t, t < c.k → s.closed t = true
  buf0 : ∀ t, s.closed t = false → s.termBuf t = 0
  /-- buffered channels: a closed channel whose flow has not read yet still holds its `true` -/
  bufpos : 1 ≤ c.termCap → ∀ t, s.closed t = true → (s.pc t = .starting ∨ s.pc t = .selecting) → 1 ≤ s.termBuf t
  mapgone : s.mapGone = true → c.mapReplaced = true
  /-- a flow selects on a nil termination channel only if the winner reassigned the map variable -/
  nilc : ∀ i, s.nilChan i = true → c.mapReplaced = true

theorem invA_init (c : Cfg) : InvA c (init c) := by
  constructor <;> simp [init, Pc.won]

section
variable {c : Cfg} {s : St}

theorem InvA.frame (h : InvA c s) {npc : Nat → NodePc} {active : Nat → Bool} {replyBuf : Nat → Nat}
    {inbox : Nat → List Msg} {dels : List (Nat × Nat)} {wg : Nat} :
    InvA c { s with npc := npc, active := active, replyBuf := replyBuf, inbox := inbox, dels := dels, wg := wg } :=
  { h with }

theorem InvA.won_lt (h : InvA c s) {w : Nat} (hw : (s.pc w).won = true) : w < c.k :=
  h.lt_k w (fun e => by rw [e] at hw; cases hw)

theorem InvA.winner (h : InvA c s) (hf : s.first ≠ none) : ∃ w, w < c.k ∧ (s.pc w).won = true := by
  obtain ⟨w, hw⟩ := Option.ne_none_iff_exists'.mp hf
  exact ⟨w, h.won_lt (h.first_w w hw), h.first_w w hw⟩

theorem InvA.move (h : InvA c s) {i : Nat} {p : Pc} (hi : i < c.k) (hp : s.pc i = p) (v : Pc)
    (hpv : v.won = p.won ∧ (v = .starting ∨ v = .selecting → p = .starting ∨ p = .selecting))
    (hcompl : v = .completed → s.first ≠ none) (hcont : v = .continued → ∀ t, t < c.k → s.closed t = true) :
    InvA c { s with pc := upd s.pc i v } := by
  subst hp
  refine { h with lt_k := lt_k_upd h.lt_k hi, first_w := fun w hw => ?_, won_first := fun j hj => ?_,
                  compl := fun j hj => ?_, cont_closed := fun w hw => ?_,
                  bufpos := fun hc t hcl hp => h.bufpos hc t hcl ?_ } <;> dsimp only at *
  · rcases upd_cases s.pc i v w with e | ⟨e', e⟩ <;> rw [e]
    · exact h.first_w w hw
    · rw [hpv.1, ← e']; exact h.first_w w hw
  · rcases upd_cases s.pc i v j with e | ⟨e', e⟩ <;> rw [e] at hj
    · exact h.won_first j hj
    · rw [hpv.1, ← e'] at hj; exact h.won_first j hj
  · rcases upd_cases s.pc i v j with e | ⟨_, e⟩ <;> rw [e] at hj
    · exact h.compl j hj
    · exact hcompl hj
  · rcases upd_cases s.pc i v w with e | ⟨_, e⟩ <;> rw [e] at hw
    · exact h.cont_closed w hw
    · exact hcont hw
  · rcases upd_cases s.pc i v t with e | ⟨e', e⟩ <;> rw [e] at hp
    · exact hp
    · exact e' ▸ hpv.2 hp

theorem InvA.close (h : InvA c s) {t : Nat} {tb : Nat → Nat} (ht : s.target = some t)
    (hne : ∀ j, j ≠ t → tb j = s.termBuf j)
    (hb : 1 ≤ c.termCap → s.pc t = .starting ∨ s.pc t = .selecting → 1 ≤ tb t) :
    InvA c { s with closed := upd s.closed t true, target := none, termBuf := tb } := by
  refine { h with tgt := nofun, cont_closed := fun w hw j hj => ?_, buf0 := fun j hj => ?_,
                  bufpos := fun hc j hcl hp => ?_ } <;> dsimp only at *
  · rcases upd_cases s.closed t true j with e | ⟨_, e⟩ <;> rw [e]
    exact h.cont_closed w hw j hj
  · obtain ⟨e, hj⟩ := upd_eq_ne (by decide) hj
    rw [hne j e]; exact h.buf0 j hj
  · by_cases e : j = t
    · subst e; exact hb hc hp
    · rw [upd_other _ _ _ _ e] at hcl; rw [hne j e]; exact h.bufpos hc j hcl hp

theorem invA_step (c : Cfg) (s : St) (l : Lbl) (h : InvA c s) (he : enabled c s l = true) :
    InvA c (fire c s l) := by
  cases l <;> simp only [enabled, Bool.and_eq_true, decide_eq_true_eq, Bool.not_eq_true', allClosed_iff] at he
  case node | deliver | forward => exact h.frame
  case enterSelect i =>
    refine { h.move he.1.1 he.1.2 .selecting (by decide) nofun nofun with nilc := fun j hj => ?_ }
    dsimp only [fire] at hj
    rcases upd_cases s.nilChan i s.mapGone j with e | ⟨_, e⟩ <;> rw [e] at hj
    · exact h.nilc j hj
    · exact h.mapgone hj
  case send j =>
    by_cases h0 : c.replyCap = 0 <;> simp only [fire, h0, if_true, if_false]
    · simp only [h0, if_true, decide_eq_true_eq] at he
      exact (h.move he.1.1 he.2 .gotAction (by decide) nofun nofun).frame
    · exact h.frame
  case takeAction j => exact (h.move he.1.1 he.1.2 .gotAction (by decide) nofun nofun).frame
  case enterTransformer i => exact h.move he.1 he.2 .inTransformer (by decide) nofun nofun
  case cas i =>
    by_cases hf : s.first = none <;> simp only [fire, hf, if_true, if_false]
    · -- nobody has won and the loop has no target yet
      refine { h with lt_k := lt_k_upd h.lt_k he.1, first_w := fun w e => ?_, won_first := fun j hj => ?_,
                      compl := fun _ _ => nofun, tgt := fun t e => absurd hf (h.tgt t e).2.2,
                      cont_closed := fun w hw => h.cont_closed w (upd_eq_ne (by decide) hw).2,
                      bufpos := fun hc t hcl hp => h.bufpos hc t hcl ?_ } <;> dsimp only at *
      · cases e; rw [upd_same]; rfl
      · rcases upd_cases s.pc i .notifying j with e | ⟨e, _⟩
        · rw [e] at hj; rw [h.won_first j hj] at hf; cases hf
        · rw [e]
      · exact hp.imp (fun e => (upd_eq_ne (by decide) e).2) (fun e => (upd_eq_ne (by decide) e).2)
    · exact (h.move he.1 he.2 .completed (by decide) (fun _ => hf) nofun).frame
  case pick i t =>
    obtain ⟨⟨⟨⟨_, htk⟩, hpc⟩, _⟩, hcl⟩ := he
    refine { h with tgt := fun t' e => ?_ }
    cases e
    exact ⟨htk, hcl, fun e => nomatch (h.won_first i (by rw [hpc]; rfl)).symm.trans e⟩
  case notify i t =>
    obtain ⟨⟨⟨⟨⟨_, htk⟩, _⟩, _⟩, htg⟩, hx⟩ := he
    by_cases h0 : c.termCap = 0 <;> simp only [fire, h0, if_true, if_false]
    · simp only [h0, if_true, Bool.and_eq_true, decide_eq_true_eq] at hx
      exact ((h.move htk hx.1 .terminated (by decide) nofun nofun).close htg (fun _ _ => rfl)
        (fun hc _ => absurd h0 (by omega))).frame
    · exact (h.close htg (fun j e => upd_other _ _ _ _ e) (fun _ _ => by rw [upd_same]; omega)).frame
  case closeOwn i =>
    exact h.close he.2 (fun _ _ => rfl) (fun _ hp => by rw [he.1.2] at hp; rcases hp with e | e <;> cases e)
  case finish i =>
    obtain ⟨⟨⟨hik, hpc⟩, _⟩, hall⟩ := he
    exact { h.move hik hpc .continued (by decide) nofun (fun _ => hall) with
            mapgone := fun e => (Bool.or_eq_true_iff.mp e).elim h.mapgone id }
  case recvTerm t =>
    obtain ⟨⟨⟨htk, hpc⟩, _⟩, _⟩ := he
    have h' := h.move htk hpc .terminated (by decide) nofun nofun
    have hle : ∀ j, upd s.termBuf t (s.termBuf t - 1) j ≤ s.termBuf j := fun j => by
      rcases upd_cases s.termBuf t (s.termBuf t - 1) j with e | ⟨rfl, e⟩ <;> rw [e]
      · exact Nat.le_refl _
      · exact Nat.sub_le _ _
    refine InvA.frame (s := { s with pc := upd s.pc t .terminated, termBuf := upd s.termBuf t (s.termBuf t - 1) })
      { h' with buf0 := fun j hj => Nat.le_zero.mp (h.buf0 j hj ▸ hle j), bufpos := fun hc j hcl hp => ?_ }
    dsimp only at hp ⊢
    have e : j ≠ t := fun e => by subst e; rw [upd_same] at hp; rcases hp with e | e <;> cases e
    rw [upd_other _ _ _ _ e]; exact h'.bufpos hc j hcl hp

end

theorem reg_not_mem_tail (l : List Msg) (h : Msg.reg ∉ l) : Msg.reg ∉ l.tail :=
  fun hm => h (List.mem_of_mem_tail hm)

theorem reg_count_tail (l : List Msg) (h : l.count Msg.reg ≤ 1) : l.tail.count Msg.reg ≤ 1 := by
  cases l with
  | nil => simp
  | cons a t =>
    simp only [List.tail_cons]
    have := List.count_le_count_cons (a := Msg.reg) (b := a) (l := t)
    omega

theorem reg_head_tail (l : List Msg) (hh : l.head? = some Msg.reg) (h : l.count Msg.reg ≤ 1) : Msg.reg ∉ l.tail := by
  cases l with
  | nil => cases hh
  | cons a t =>
    cases Option.some.inj hh
    intro hm
    have := List.count_pos_iff.mpr (show Msg.reg ∈ t from hm)
    rw [List.count_cons_self] at h
    omega

theorem reg_mem_of_tail (l : List Msg) (h : Msg.reg ∈ l.tail) : Msg.reg ∈ l := List.mem_of_mem_tail h

theorem tail_ne_nil_of (l : List Msg) (h : l.tail ≠ []) : l ≠ [] :=
  fun hl => h (congrArg List.tail hl)

/-- catch node `j` seen from its flow (`p`), its own state (`n`, `a`), its inbox and its parked reply channel -/
structure NodeInv (k j : Nat) (p : Pc) (n : NodePc) (a : Bool) (ib : List Msg) (rb : Nat) : Prop where
  start : p = .starting → a = false ∧ n = .idle ∧ Msg.reg ∉ ib ∧ rb = 0
  send_active : n = .sending → a = true
  active_reg : a = true → Msg.reg ∉ ib ∧ rb = 0
  reg_once : ib.count Msg.reg ≤ 1
  reg_buf : Msg.reg ∈ ib → rb = 0
  lt_k : (n = .sending ∨ a = true ∨ ib ≠ []) → j < k

namespace NodeInv
variable {k j : Nat} {p p' : Pc} {n : NodePc} {a : Bool} {ib : List Msg} {rb rb' : Nat}

theorem mono (h : NodeInv k j p n a ib rb) (hp : p' = .starting → p = .starting) (hrb : rb' ≤ rb) :
    NodeInv k j p' n a ib rb' where
  start e := by obtain ⟨x, y, z, w⟩ := h.start (hp e); exact ⟨x, y, z, by omega⟩
  send_active := h.send_active
  active_reg e := by obtain ⟨x, y⟩ := h.active_reg e; exact ⟨x, by omega⟩
  reg_once := h.reg_once
  reg_buf e := by have := h.reg_buf e; omega
  lt_k := h.lt_k

theorem register (h : NodeInv k j .starting n a ib rb) (hj : j < k) : NodeInv k j .selecting n a (ib ++ [.reg]) rb := by
  obtain ⟨ha, hn, hr, hb⟩ := h.start rfl
  exact {
    start := nofun
    send_active := h.send_active
    active_reg := fun e => by rw [ha] at e; cases e
    reg_once := by simp [List.count_append, List.count_eq_zero.mpr hr]
    reg_buf := fun _ => hb
    lt_k := fun _ => hj }

theorem push_ev (h : NodeInv k j p n a ib rb) (hj : j < k) (x : Nat) : NodeInv k j p n a (ib ++ [.ev x]) rb where
  start e := by simpa using h.start e
  send_active := h.send_active
  active_reg e := by simpa using h.active_reg e
  reg_once := by simpa [List.count_append] using h.reg_once
  reg_buf e := h.reg_buf (by simpa using e)
  lt_k _ := hj

theorem tail (h : NodeInv k j p n a ib rb) : NodeInv k j p n a ib.tail rb where
  start e := ⟨(h.start e).1, (h.start e).2.1, reg_not_mem_tail _ (h.start e).2.2.1, (h.start e).2.2.2⟩
  send_active := h.send_active
  active_reg e := ⟨reg_not_mem_tail _ (h.active_reg e).1, (h.active_reg e).2⟩
  reg_once := reg_count_tail _ h.reg_once
  reg_buf e := h.reg_buf (reg_mem_of_tail _ e)
  lt_k e := h.lt_k (e.imp id (Or.imp id (tail_ne_nil_of _)))

theorem take (h : NodeInv k j p n a ib rb) :
    NodeInv k j p (if ib.head? = some (.ev j) ∧ a = true then .sending else n)
      (if ib.head? = some .reg then true else a) ib.tail rb := by
  by_cases hr : ib.head? = some .reg
  · have hm : Msg.reg ∈ ib := List.mem_of_mem_head? hr
    rw [if_pos hr, if_neg (fun e => by rw [hr] at e; cases e.1)]
    exact { h.tail with start := fun e => absurd hm (h.start e).2.2.1, send_active := fun _ => rfl,
                        active_reg := fun _ => ⟨reg_head_tail _ hr h.reg_once, h.reg_buf hm⟩,
                        lt_k := fun _ => h.lt_k (.inr (.inr (List.ne_nil_of_mem hm))) }
  · rw [if_neg hr]
    split
    · next hc =>
      exact { h.tail with start := fun e => (nomatch (h.start e).1.symm.trans hc.2), send_active := fun _ => hc.2,
                          lt_k := fun _ => h.lt_k (.inr (.inl hc.2)) }
    · exact h.tail

theorem sent (h : NodeInv k j p .sending a ib rb) (hp : p' = .starting → p = .starting) :
    NodeInv k j p' .idle false ib rb' where
  start e := nomatch (h.start (hp e)).2.1
  send_active := nofun
  active_reg := nofun
  reg_once := h.reg_once
  reg_buf e := absurd e (h.active_reg (h.send_active rfl)).1
  lt_k := fun e => h.lt_k (by rcases e with e | e | e; cases e; cases e; exact Or.inr (Or.inr e))

end NodeInv

def InvN (c : Cfg) (s : St) : Prop :=
  ∀ j, NodeInv c.k j (s.pc j) (s.npc j) (s.active j) (s.inbox j) (s.replyBuf j)

theorem invN_init (c : Cfg) : InvN c (init c) := fun _ =>
  ⟨fun _ => ⟨rfl, rfl, nofun, rfl⟩, nofun, nofun, Nat.zero_le _, nofun, fun e => by simp [init] at e⟩

theorem invN_step (c : Cfg) (s : St) (l : Lbl) (h : InvN c s) (he : enabled c s l = true) :
    InvN c (fire c s l) := by
  cases l <;> simp only [enabled, Bool.and_eq_true, decide_eq_true_eq] at he <;> intro j'
  case pick | closeOwn | deliver => exact h j'
  case enterTransformer | finish | recvTerm =>
    exact (h j').mono (fun e => (upd_eq_ne (by decide) e).2) (Nat.le_refl _)
  case cas i => exact (h j').mono (fun e => (upd_eq_ne (by split <;> decide) e).2) (Nat.le_refl _)
  case notify i t =>
    refine (h j').mono (fun e => ?_) (Nat.le_refl _)
    dsimp only [fire] at e
    split at e
    · exact (upd_eq_ne (by decide) e).2
    · exact e
  case enterSelect i =>
    by_cases e : j' = i
    · subst e
      simp only [fire, upd_same]
      exact (he.1.2 ▸ h j').register he.1.1
    · simp only [fire, upd_other _ _ _ _ e]
      exact h j'
  case node j =>
    simp only [fire, ite_app]
    by_cases e : j' = j
    · subst e
      simp only [upd_same]
      exact (h j').take
    · simp only [upd_other _ _ _ _ e, ite_self]
      exact h j'
  case send j =>
    simp only [fire, ite_app]
    by_cases e : j' = j
    · subst e
      simp only [upd_same]
      exact (he.1.2 ▸ h j').sent (fun e => by split at e; cases e; exact e)
    · simp only [upd_other _ _ _ _ e, ite_self]
      exact h j'
  case takeAction j =>
    by_cases e : j' = j
    · subst e
      simp only [fire, upd_same]
      exact (h j').mono nofun (Nat.sub_le _ _)
    · simp only [fire, upd_other _ _ _ _ e]
      exact h j'
  case forward d =>
    by_cases e : j' = (delAt s d).2
    · rw [e]
      simp only [fire, upd_same]
      exact (h _).push_ev he.1.2 _
    · simp only [fire, upd_other _ _ _ _ e]
      exact h j'

def sumTo : Nat → (Nat → Nat) → Nat
  | 0, _ => 0
  | n + 1, f => sumTo n f + f n

theorem sumTo_congr (n : Nat) (f g : Nat → Nat) (h : ∀ j, j < n → f j = g j) : sumTo n f = sumTo n g := by
  induction n with
  | zero => rfl
  | succ n ih =>
    simp only [sumTo]
    rw [ih (fun j hj => h j (Nat.lt_succ_of_lt hj)), h n (Nat.lt_succ_self n)]

theorem sumTo_const (n a : Nat) : sumTo n (fun _ => a) = a * n := by
  induction n with
  | zero => rfl
  | succ n ih => rw [sumTo, ih, Nat.mul_succ]

theorem sumTo_upd {α : Type} (g : α → Nat) (f : Nat → α) {i n : Nat} (hi : i < n) (v : α) :
    sumTo n (fun j => g (upd f i v j)) + g (f i) = sumTo n (fun j => g (f j)) + g v := by
  induction n with
  | zero => omega
  | succ n ih =>
    simp only [sumTo]
    by_cases hin : i = n
    · subst hin
      rw [sumTo_congr i (fun j => g (upd f i v j)) (fun j => g (f j))
        (fun j hj => by rw [upd_other _ _ _ _ (Nat.ne_of_lt hj)]), upd_same]
      omega
    · rw [upd_other _ _ _ _ (Ne.symm hin)]
      have := ih (by omega)
      omega

theorem sumTo_single (f : Nat → Nat) {w n : Nat} (hw : w < n) (h0 : ∀ j, j < n → j ≠ w → f j = 0) :
    sumTo n f = f w := by
  have e := sumTo_upd id f hw 0
  rw [sumTo_congr n _ (fun _ => 0), sumTo_const] at e
  · simpa using e.symm
  · intro j hj
    by_cases hjw : j = w
    · rw [hjw, id, upd_same]
    · rw [id, upd_other _ _ _ _ hjw]; exact h0 j hj hjw

def InvD (c : Cfg) (s : St) : Prop := ∀ d ∈ s.dels, d.2 < c.k

theorem invD_init (c : Cfg) : InvD c (init c) := by simp [InvD, init]

theorem invD_step (c : Cfg) (s : St) (l : Lbl) (h : InvD c s) (he : enabled c s l = true) :
    InvD c (fire c s l) := by
  unfold InvD at *
  cases l <;> simp only [enabled, Bool.and_eq_true, decide_eq_true_eq] at he <;> simp only [fire]
  case deliver a =>
    intro d hd
    rcases List.mem_append.mp hd with hd | hd
    · exact h d hd
    · cases List.mem_singleton.mp hd; exact Nat.zero_lt_of_lt he
  case forward d =>
    intro x hx
    split at hx
    · exact h x (List.mem_of_mem_eraseIdx hx)
    · rcases List.mem_or_eq_of_mem_set hx with hx | hx
      · exact h x hx
      · subst hx; simp only; omega
  all_goals exact h

theorem sum_map_at (f : Nat × Nat → Nat) : ∀ (l : List (Nat × Nat)) (d : Nat), d < l.length →
    ((l.eraseIdx d).map f).sum + f (l[d]?.getD (0, 0)) = (l.map f).sum ∧
    ∀ y, ((l.set d y).map f).sum = ((l.eraseIdx d).map f).sum + f y := by
  intro l
  induction l with
  | nil => intro d h; cases h
  | cons x xs ih =>
    intro d h
    cases d with
    | zero => exact ⟨by simp; omega, fun y => by simp; omega⟩
    | succ d =>
      simp only [List.eraseIdx_cons_succ, List.set_cons_succ, List.map_cons, List.sum_cons, List.getElem?_cons_succ]
      have := ih d (Nat.lt_of_succ_lt_succ h)
      exact ⟨by omega, fun y => by have := this.2 y; omega⟩

def Pc.rank : Pc → Nat
  | .starting => 7 | .selecting => 4 | .gotAction => 3 | .inTransformer => 2 | .notifying => 1
  | _ => 0

def NodePc.weight : NodePc → Nat
  | .sending => 1
  | .idle => 0

def closedWeight : Bool → Nat
  | true => 0
  | false => 2

def targetWeight : Option Nat → Nat
  | none => 1
  | some _ => 0

def delWeight (c : Cfg) (d : Nat × Nat) : Nat := 3 * (c.k - d.2)

/-- what is left to do: every internal step decreases it, a delivery adds `3·k`. Each weight is the least that pays
for what a step puts back: a message in an inbox weighs 2 (taking it may start a send, weight 1); `starting` has rank
7 because `enterSelect` goes to 4 and queues a registration (2); a delivery weighs 3 per consumer still ahead because
each `forward` queues an event (2); an open termination channel weighs 2 because closing it (`notify`, `closeOwn`)
frees the loop's target again (`targetWeight` back to 1). Initially `7·k + 2·k + 1` (`mu_init`). -/
def mu (c : Cfg) (s : St) : Nat :=
  sumTo c.k (fun i => (s.pc i).rank) + sumTo c.k (fun j => 2 * (s.inbox j).length)
    + sumTo c.k (fun j => (s.npc j).weight)
    + sumTo c.k (fun t => closedWeight (s.closed t)) + targetWeight s.target
    + (s.dels.map (delWeight c)).sum

theorem rank_of_final {p : Pc} (h : p = .continued ∨ p.gone = true) : p.rank = 0 := by
  rcases h with rfl | h
  · rfl
  · cases p <;> first | rfl | cases h

theorem fire_flows (c : Cfg) (s : St) (l : Lbl) (he : enabled c s l = true) :
    ((fire c s l).pc = s.pc ∧ (fire c s l).first = s.first ∧ (fire c s l).wg = s.wg) ∨
    ∃ i p v, i < c.k ∧ s.pc i = p ∧ p.rank ≠ 0 ∧ (p = .notifying → s.target = none) ∧
      (fire c s l).pc = upd s.pc i v ∧ (fire c s l).wg = if v.gone = true then s.wg - 1 else s.wg := by
  cases l <;> simp only [enabled, Bool.and_eq_true, decide_eq_true_eq] at he
  case node | pick | closeOwn | deliver | forward => exact Or.inl ⟨rfl, rfl, rfl⟩
  case enterSelect i => exact Or.inr ⟨i, _, .selecting, he.1.1, he.1.2, by decide, nofun, rfl, rfl⟩
  case send j =>
    by_cases h0 : c.replyCap = 0
    · simp only [h0, if_true, decide_eq_true_eq] at he
      exact Or.inr ⟨j, _, .gotAction, he.1.1, he.2, by decide, nofun, by simp only [fire, h0, if_true], rfl⟩
    · exact Or.inl (by simp only [fire, h0, if_false, and_self])
  case takeAction j => exact Or.inr ⟨j, _, .gotAction, he.1.1, he.1.2, by decide, nofun, rfl, rfl⟩
  case enterTransformer i => exact Or.inr ⟨i, _, .inTransformer, he.1, he.2, by decide, nofun, rfl, rfl⟩
  case cas i => exact Or.inr ⟨i, _, _, he.1, he.2, by decide, nofun, rfl, by dsimp only [fire]; split <;> rfl⟩
  case notify i t =>
    by_cases h0 : c.termCap = 0
    · simp only [h0, if_true, Bool.and_eq_true, decide_eq_true_eq] at he
      obtain ⟨⟨⟨⟨⟨_, htk⟩, _⟩, _⟩, _⟩, hpc, _⟩ := he
      exact Or.inr ⟨t, _, .terminated, htk, hpc, by decide, nofun, by simp only [fire, h0, if_true],
        by simp only [fire, h0, if_true]; rfl⟩
    · exact Or.inl (by simp only [fire, h0, if_false, and_self])
  case finish i =>
    obtain ⟨⟨⟨hik, hpc⟩, htg⟩, _⟩ := he
    exact Or.inr ⟨i, _, .continued, hik, hpc, by decide, fun _ => htg, rfl, rfl⟩
  case recvTerm t =>
    obtain ⟨⟨⟨htk, hpc⟩, _⟩, _⟩ := he
    exact Or.inr ⟨t, _, .terminated, htk, hpc, by decide, nofun, rfl, rfl⟩

theorem fire_first (c : Cfg) (s : St) (l : Lbl) (h : s.first ≠ none) : (fire c s l).first = s.first := by
  cases l <;> simp only [fire, h, if_false]

theorem mu_decreases (c : Cfg) (s : St) (l : Lbl) (h : InvA c s) (hl : l.isInput = false)
    (he : enabled c s l = true) : mu c (fire c s l) < mu c s := by
  have hrank := @sumTo_upd _ Pc.rank s.pc
  have hlen := @sumTo_upd _ (fun l : List Msg => 2 * l.length) s.inbox
  cases l <;> simp only [enabled, Bool.and_eq_true, decide_eq_true_eq] at he <;> simp only [fire, mu]
  case enterSelect i =>
    have a : _ + 7 = _ + 4 := he.1.2 ▸ hrank he.1.1 .selecting
    have b := hlen he.1.1 (s.inbox i ++ [.reg])
    simp only [List.length_append, List.length_singleton] at b
    omega
  case node j =>
    have b := hlen he.1.1 (s.inbox j).tail
    have hpos : 0 < (s.inbox j).length := List.length_pos_iff.mpr (by simpa using he.2)
    simp only [List.length_tail] at b
    split
    · have a : _ + 0 = _ + 1 := he.1.2 ▸ sumTo_upd NodePc.weight s.npc he.1.1 .sending
      omega
    · omega
  case send j =>
    have a : _ + 1 = _ + 0 := he.1.2 ▸ sumTo_upd NodePc.weight s.npc he.1.1 .idle
    split
    · next h0 =>
      simp only [h0, if_true, decide_eq_true_eq] at he
      have b : _ + 4 = _ + 3 := he.2 ▸ hrank he.1.1 .gotAction
      omega
    · omega
  case takeAction j =>
    have b : _ + 4 = _ + 3 := he.1.2 ▸ hrank he.1.1 .gotAction
    omega
  case enterTransformer i =>
    have b : _ + 3 = _ + 2 := he.2 ▸ hrank he.1 .inTransformer
    omega
  case cas i =>
    split
    · have b : _ + 2 = _ + 1 := he.2 ▸ hrank he.1 .notifying
      omega
    · have b : _ + 2 = _ + 0 := he.2 ▸ hrank he.1 .completed
      omega
  case pick i t =>
    simp only [he.1.2, targetWeight]
    omega
  case notify i t =>
    obtain ⟨⟨⟨⟨⟨_, htk⟩, _⟩, _⟩, htg⟩, hx⟩ := he
    have a : _ + 2 = _ + 0 := (h.tgt t htg).2.1 ▸ sumTo_upd closedWeight s.closed htk true
    simp only [htg, targetWeight]
    split
    · next h0 =>
      simp only [h0, if_true, Bool.and_eq_true, decide_eq_true_eq] at hx
      have b : _ + 4 = _ + 0 := hx.1 ▸ hrank htk .terminated
      omega
    · omega
  case closeOwn i =>
    have a : _ + 2 = _ + 0 := (h.tgt i he.2).2.1 ▸ sumTo_upd closedWeight s.closed he.1.1 true
    simp only [he.2, targetWeight]
    omega
  case finish i =>
    obtain ⟨⟨⟨hik, hpc⟩, _⟩, _⟩ := he
    have b : _ + 1 = _ + 0 := hpc ▸ hrank hik .continued
    omega
  case recvTerm t =>
    obtain ⟨⟨⟨htk, hpc⟩, _⟩, _⟩ := he
    have b : _ + 4 = _ + 0 := hpc ▸ hrank htk .terminated
    omega
  case deliver a => cases hl
  case forward d =>
    obtain ⟨⟨hd, hn⟩, _⟩ := he
    have b := hlen hn (s.inbox (delAt s d).2 ++ [.ev (delAt s d).1])
    simp only [List.length_append, List.length_singleton] at b
    obtain ⟨e, e'⟩ := sum_map_at (delWeight c) s.dels d hd
    change _ + 3 * (c.k - (delAt s d).2) = _ at e
    split
    · omega
    · have e2 : _ = _ + 3 * (c.k - ((delAt s d).2 + 1)) := e' ((delAt s d).1, (delAt s d).2 + 1)
      omega

theorem mu_deliver (c : Cfg) (s : St) (a : Nat) : mu c (fire c s (.deliver a)) = mu c s + 3 * c.k := by
  simp [fire, mu, delWeight, List.sum_append]
  omega

theorem mu_init (c : Cfg) : mu c (init c) = 9 * c.k + 1 := by
  simp only [mu, init, Pc.rank, List.length_nil, NodePc.weight, closedWeight, targetWeight, List.map_nil,
    List.sum_nil, sumTo_const]
  omega

theorem liveCount_eq_sumTo (c : Cfg) (s : St) :
    liveCount c s = sumTo c.k (fun i => if (s.pc i).gone = true then 0 else 1) := by
  unfold liveCount
  induction c.k with
  | zero => rfl
  | succ n ih =>
    rw [List.range_succ, List.countP_append, ih, sumTo, List.countP_cons, List.countP_nil]
    cases (s.pc n).gone <;> rfl

def InvW (c : Cfg) (s : St) : Prop := s.wg = liveCount c s

theorem invW_init (c : Cfg) : InvW c (init c) := by
  simp [InvW, init, liveCount, Pc.gone]

/-- if the move ends flow `i`, its deferred `Done()` runs -/
theorem InvW.move {c : Cfg} {s : St} (h : InvW c s) {i : Nat} (hi : i < c.k) {p : Pc} (hp : s.pc i = p)
    (hg : p.gone = false) (v : Pc) :
    InvW c { s with pc := upd s.pc i v, wg := if v.gone = true then s.wg - 1 else s.wg } := by
  have e := sumTo_upd (fun p : Pc => if p.gone = true then 0 else 1) s.pc hi v
  unfold InvW at h ⊢
  rw [liveCount_eq_sumTo] at h ⊢
  simp only [hp, hg, Bool.false_eq_true, if_false] at e
  cases hv : v.gone
  · simp only [hv, Bool.false_eq_true, if_false] at e ⊢; omega
  · simp only [hv, if_true] at e ⊢; omega

theorem invW_step (c : Cfg) (s : St) (l : Lbl) (h : InvW c s) (he : enabled c s l = true) :
    InvW c (fire c s l) := by
  rcases fire_flows c s l he with ⟨e, _, ew⟩ | ⟨i, p, v, hi, hp, hr, _, e, ew⟩
  · unfold InvW liveCount at h ⊢
    rw [e, ew]; exact h
  · have := h.move hi hp (Bool.eq_false_iff.mpr fun hg => hr (rank_of_final (Or.inr hg))) v
    unfold InvW liveCount at this ⊢
    rw [e, ew]; exact this

structure Inv (c : Cfg) (s : St) : Prop where
  a : InvA c s
  n : InvN c s
  w : InvW c s
  d : InvD c s

theorem inv_init (c : Cfg) : Inv c (init c) := ⟨invA_init c, invN_init c, invW_init c, invD_init c⟩

theorem inv_step (c : Cfg) (s : St) (l : Lbl) (h : Inv c s) (he : enabled c s l = true) : Inv c (fire c s l) :=
  ⟨invA_step c s l h.a he, invN_step c s l h.n he, invW_step c s l h.w he, invD_step c s l h.d he⟩

theorem inv_exec (c : Cfg) (s : St) (h : Inv c s) (sch : List Lbl) : Inv c (exec c s sch) :=
  exec_induct c (Inv c) (fun s l hs he => inv_step c s l hs he) sch s h

theorem inv_reach (c : Cfg) (sch : List Lbl) : Inv c (exec c (init c) sch) := inv_exec c _ (inv_init c) sch

end Bpmn.Model.EventGateway
