import Bpmn.Model.Value
/-! Lemmas for C16: printing an `int64` and parsing it back (`parseInt64_printInt`), and `valueFor` on what a faithful
`valueFrom` writes for each item type. -/
namespace Bpmn.Model.Value

/-- the facts as first extracted, before any repair: the per-finding witnesses and partial theorems of `Props/C16`
(its section on `Cfg.asFound`) are stated on them -/
def Cfg.asFound : Cfg where
  inferred := [(.slice, .marshalArray), (.array, .marshalArray), (.map, .marshalObject), (.struct, .marshalObject),
    (.string, .string), (.bool, .bool), (.int, .int), (.int8, .int), (.int16, .int), (.int32, .int), (.int64, .int),
    (.uint, .int), (.uint8, .int), (.uint16, .int), (.uint32, .int), (.uint64, .int), (.float32, .float), (.float64, .float)]
  declInt := [.int, .int8, .int16, .int32, .int64, .uint, .uint8, .uint16, .uint32, .uint64]
  floatSix := true
  floatWide := false
  nilGuardArray := false
  nilGuardObject := false
  nilGuardValuePtr := false

/-- the facts after the repairs (unsigned accessors for the unsigned kinds, the float verb, the two nil guards for
array and object, the guard for a nil `*Value`); used for non-vacuity of the positive theorems -/
def Cfg.repaired : Cfg where
  inferred := [(.slice, .marshalArray), (.array, .marshalArray), (.map, .marshalObject), (.struct, .marshalObject),
    (.string, .string), (.bool, .bool), (.int, .int), (.int8, .int), (.int16, .int), (.int32, .int), (.int64, .int),
    (.uint, .uint), (.uint8, .uint), (.uint16, .uint), (.uint32, .uint), (.uint64, .uint), (.float32, .float), (.float64, .float)]
  declInt := [.int, .int8, .int16, .int32, .int64, .uint, .uint8, .uint16, .uint32, .uint64]
  floatSix := false
  floatWide := true
  nilGuardArray := true
  nilGuardObject := true
  nilGuardValuePtr := true

theorem isDigits_printNat (n : Nat) : isDigits (printNat n) = true := by
  unfold isDigits printNat
  simp only [Bool.and_eq_true, Bool.not_eq_true', List.all_eq_true]
  refine ⟨?_, fun c hc => Nat.isDigit_of_mem_toDigits (b := 10) (n := n) (by decide) (by decide) hc⟩
  cases h : Nat.toDigits 10 n with
  | nil => exact absurd h Nat.toDigits_ne_nil
  | cons _ _ => rfl

theorem parseNat_printNat (n : Nat) : parseNat (printNat n) = some n := by
  unfold parseNat
  rw [isDigits_printNat]
  simp [printNat, Nat.ofDigitChars_ten_toDigits]

theorem splitSign_digits (l : Text) (h : isDigits l = true) : splitSign l = (false, l) := by
  unfold splitSign
  split
  · simp [isDigits, Char.isDigit] at h
  · simp [isDigits, Char.isDigit] at h
  · rfl

theorem parseInt64_printInt (n : Int) (h1 : -9223372036854775808 ≤ n) (h2 : n ≤ 9223372036854775807) :
    parseInt64 (printInt n) = some n := by
  unfold parseInt64 printInt
  by_cases hn : n < 0
  · rw [if_pos hn, show splitSign ('-' :: printNat n.natAbs) = (true, printNat n.natAbs) from rfl]
    dsimp only
    rw [parseNat_printNat]
    have : ¬ (n.natAbs : Int) > 9223372036854775808 := by omega
    simp [this]
    omega
  · rw [if_neg hn, splitSign_digits _ (isDigits_printNat _)]
    dsimp only
    rw [parseNat_printNat]
    have : ¬ (n.natAbs : Int) > 9223372036854775807 := by omega
    simp [this]
    omega

theorem panics_of_fits (a : Accessor) (k : Kind) (h : a.fits k = true) : a.panics k = false := by
  cases a <;> simp [Accessor.panics, h]

theorem valueFor_int (C : Codec) (n : Int) (h1 : -9223372036854775808 ≤ n) (h2 : n ≤ 9223372036854775807) :
    valueFor C { ty := .integer, val := .chars (printInt n) } = .int n := by
  unfold valueFor
  simp [parseInt64_printInt n h1 h2]

theorem valueFor_bool (C : Codec) (b : Bool) :
    valueFor C { ty := .boolean, val := .chars (boolText b) } = .bool b := by
  cases b <;> simp [valueFor, boolText] <;> decide

theorem valueFor_arr (C : Codec) (hC : C.Lawful) (xs : JList) :
    valueFor C { ty := .array, val := .doc (C.print (.arr xs)) } = .json (.arr xs.canon) := by
  simp only [valueFor]; rw [hC]; rfl

theorem valueFor_obj (C : Codec) (hC : C.Lawful) (kvs : JFields) :
    valueFor C { ty := .object, val := .doc (C.print (.obj kvs)) } = .json (.obj kvs.canon) := by
  simp only [valueFor]; rw [hC]; rfl

theorem valueFrom_float (cfg : Cfg) (C : Codec) (x : IV C.T) (is32 : Bool) (f : F64) (sh : Text) :
    valueFrom cfg C ⟨.float, x⟩ (.float is32 f sh) =
      .ok ⟨.float, .chars (if cfg.floatSix then f6 f else if cfg.floatWide then f.g else sh)⟩ := rfl

theorem splitAt_name (name path : Text) (h : '.' ∉ name) :
    splitAt '.' (name ++ '.' :: path) = some (name, path) := by
  induction name with
  | nil => simp [splitAt]
  | cons c r ih =>
    rw [List.mem_cons, not_or] at h
    simp [splitAt, Ne.symm h.1, ih h.2]

theorem read_set_other {T : Type} (l : List (Store T)) (a b : Nat) (st : Store T) (k : Text) (hab : a ≠ b) :
    Heap.read ⟨l.set a st⟩ b k = Heap.read ⟨l⟩ b k := by
  unfold Heap.read
  simp only [List.getD_eq_getElem?_getD]
  rw [List.getElem?_set_ne hab]

theorem foldl_write_length {T : Type} (vars : List (Text × Value T)) (f : Heap T → Nat) (h : Heap T) :
    (vars.foldl (fun h kv => h.write (f h) kv.1 kv.2) h).stores.length = h.stores.length := by
  induction vars generalizing h with
  | nil => rfl
  | cons kv r ih => simp only [List.foldl_cons]; rw [ih]; exact List.length_set

end Bpmn.Model.Value
