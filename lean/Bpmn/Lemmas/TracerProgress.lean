import Bpmn.Lemmas.Tracer
/-! Bounded progress of the tracer model: every step of a goroutine that is inside the protocol decreases `mu`,
and a state with a call in flight always has such a step enabled (when `Unsubscribe` drains). -/
namespace Bpmn.Model.Tracer

theorem chanSum_upd {s s' : St} {c : Nat} (hch : ∀ j, j ≠ c → s'.chan j = s.chan j)
    (hn : s'.nchan = s.nchan) (hc : c < s.nchan) (g : Chan → Nat) :
    sumTo s'.nchan (fun j => g (s'.chan j)) + g (s.chan c) =
    sumTo s.nchan (fun j => g (s.chan j)) + g (s'.chan c) := by
  rw [hn]
  exact sumTo_update (w := fun j => g (s.chan j)) (w' := fun j => g (s'.chan j)) hc (fun j hj => by rw [hch j hj])

/-- How `mu` is compared across a step that takes no blocked `Send` and writes one channel `c`: the bound on the
subscribers (`smax`) does not grow, and the channel's share of `load` together with the remaining pushes shrinks. -/
theorem mu_lt {s s' : St} (c : Nat) (hch : ∀ j, j ≠ c → s'.chan j = s.chan j)
    (hn : s'.nchan = s.nchan) (hc : c < s.nchan) (hp : s'.pending = s.pending)
    (hw : s'.subs.length + (if (s'.chan c).stat = .subWait then 1 else 0) ≤
      s.subs.length + (if (s.chan c).stat = .subWait then 1 else 0))
    (hr : 2 * s'.pushRem + ((s'.chan c).buf.length + (s'.chan c).stat.weight) <
      2 * s.pushRem + ((s.chan c).buf.length + (s.chan c).stat.weight)) : s'.mu < s.mu := by
  have h1 : s'.waiting + _ = s.waiting + _ := chanSum_upd hch hn hc (fun ch => if ch.stat = .subWait then 1 else 0)
  have h2 : s'.load + _ = s.load + _ := chanSum_upd hch hn hc (fun ch => ch.buf.length + ch.stat.weight)
  unfold St.mu St.smax
  rw [hp]
  have := Nat.mul_le_mul_left s.pending.length (show 1 + 2 * (s'.subs.length + s'.waiting) ≤
    1 + 2 * (s.subs.length + s.waiting) by omega)
  omega

theorem mu_deliver {s : St} (h : Inv s) {x : Msg} {i d : Nat} (hpc : s.pc = .push x i) (hd : s.subs[i]? = some d) :
    (s.deliver d x i).mu < s.mu := by
  have hi := (h.pcPush x i hpc).1
  rw [deliver_eq]
  refine mu_lt d (fun j hj => if_neg hj) rfl (h.mem_lt_nchan (List.mem_of_getElem? hd)) rfl (by simp) ?_
  by_cases hlt : i + 1 < s.subs.length <;> simp [St.pushRem, hpc, hlt] <;> omega

theorem mu_took {s : St} {c : Nat} {m : Msg} {t : List Msg} (dr : Bool) (hb : (s.chan c).buf = m :: t)
    (hc : c < s.nchan) : (s.took c dr m t).mu < s.mu :=
  mu_lt c (fun j hj => if_neg hj) rfl hc rfl (by cases dr <;> simp [St.took])
    (by cases dr <;> simp [St.pushRem, St.took, hb])

theorem mu_takeTrace {s : St} (hpc : s.pc = .idle) {k : Nat} {x : Msg} (hx : s.pending[k]? = some x) :
    (s.takeTrace k x).mu < s.mu := by
  obtain ⟨hk, _⟩ := List.getElem?_eq_some_iff.mp hx
  have hrem : (s.takeTrace k x).pushRem ≤ s.subs.length := by
    simp only [St.pushRem, St.takeTrace]; split <;> omega
  have h0 : s.pushRem = 0 := by simp only [St.pushRem, hpc]
  obtain ⟨p, hp⟩ : ∃ p, s.pending.length = p + 1 := ⟨s.pending.length - 1, by omega⟩
  have hlen : (s.takeTrace k x).pending.length = p := by
    simp only [St.takeTrace, List.length_eraseIdx, hk, if_true]; omega
  have hK := Nat.add_mul p 1 (1 + 2 * (s.subs.length + s.waiting))
  unfold St.mu St.smax
  rw [hlen, hp, h0, hK, show (s.takeTrace k x).waiting = s.waiting from rfl,
    show (s.takeTrace k x).load = s.load from rfl, show (s.takeTrace k x).subs = s.subs from rfl]
  omega

theorem mu_step {cfg : Cfg} {s s' : St} {a : Act} (h : Inv s) (ha : a.isEnv = false) (hs : Step cfg s a s') :
    s'.mu < s.mu := by
  have hlt : ∀ {c}, (s.chan c).stat.weight ≠ 0 → c < s.nchan := fun hw => h.lt_nchan fun e => by simp [e, CStat.weight] at hw
  cases hs
  case callSub | callUnsub | misuse | callSend => cases ha
  case recvTrace hpc hx => exact mu_takeTrace hpc hx
  case recvUnsubMiss c _ hst hc => exact absurd ((h.listed c).mpr (by rw [hst]; rfl)) hc
  case push hpc hd _ => exact mu_deliver h hpc hd
  case consume hb | drain hb => exact mu_took _ hb (h.buf_lt_nchan hb)
  case consumeDirect c x i _ hb hpc hc | drainDirect c x i _ _ hb hpc hc =>
    refine Nat.lt_trans (mu_took _ ?_ ?_) (mu_deliver h hpc hc) <;> rw [deliver_eq]
    · simp [hb]
    · exact h.mem_lt_nchan (List.mem_of_getElem? hc)
  -- a hand-shake: the status of `c` loses weight
  case recvSub c _ hst | recvUnsub c _ hst _ | subReturn c hst | takeOk c _ hst =>
    refine mu_lt c (fun j hj => if_neg hj) rfl (hlt (by simp [hst, CStat.weight])) rfl ?_ ?_ <;>
      simp [St.pushRem, St.acceptSub, St.removeSub, St.finishUnsub, swapRemove, CStat.weight, *]

theorem Step.isSome {cfg : Cfg} {s s' : St} {a : Act} (h : Step cfg s a s') : (step cfg s a).isSome = true := by
  rw [step_iff.mpr h]; rfl

/-- With a draining `Unsubscribe`: whenever a call is in flight (or the broadcaster is in its range loop), some
goroutine that is already inside the protocol can take a step. -/
theorem no_deadlock {cfg : Cfg} (hdr : cfg.unsubDrains = true) {s : St} (h : Inv s) (hb : s.Busy) :
    ∃ a, a.isEnv = false ∧ (step cfg s a).isSome = true := by
  cases hpc : s.pc with
  | idle =>
    rcases hb with hp | hp | ⟨c, hc⟩
    · cases hpe : s.pending with
      | nil => exact absurd hpe hp
      | cons x t => exact ⟨.recvTrace 0, rfl, (Step.recvTrace hpc (x := x) (by rw [hpe]; rfl)).isSome⟩
    · exact absurd hpc hp
    · cases hst : (s.chan c).stat with
      | absent | active | done => rw [hst] at hc; exact absurd rfl hc
      | subWait => exact ⟨.recvSub c, rfl, (Step.recvSub hpc hst).isSome⟩
      | subAcked => exact ⟨.subReturn c, rfl, (Step.subReturn hst).isSome⟩
      | unsubOffer => exact ⟨.recvUnsub c, rfl, (Step.recvUnsub hpc hst ((h.listed c).mpr (by rw [hst]; rfl))).isSome⟩
      | unsubWaitOk => rw [(h.ack c).mp hst] at hpc; cases hpc
  | push x i =>
    obtain ⟨hi, _⟩ := h.pcPush x i hpc
    have hd : s.subs[i]? = some s.subs[i] := List.getElem?_eq_getElem hi
    have hl := (h.listed s.subs[i]).mp (List.getElem_mem hi)
    -- the channel the broadcaster is pushing to has a reader: its consumer, or its `Unsubscribe` loop
    cases hst : (s.chan s.subs[i]).stat with
    | absent | subWait | unsubWaitOk | done => rw [hst] at hl; cases hl
    | subAcked => exact ⟨.subReturn s.subs[i], rfl, (Step.subReturn hst).isSome⟩
    | active =>
      refine ⟨.consume s.subs[i], rfl, ?_⟩
      cases hbf : (s.chan s.subs[i]).buf with
      | nil => exact (Step.consumeDirect hst hbf hpc hd).isSome
      | cons m t => exact (Step.consume hst hbf).isSome
    | unsubOffer =>
      refine ⟨.drain s.subs[i], rfl, ?_⟩
      cases hbf : (s.chan s.subs[i]).buf with
      | nil => exact (Step.drainDirect hdr (Or.inl hst) hbf hpc hd).isSome
      | cons m t => exact (Step.drain hdr (Or.inl hst) hbf).isSome
  | ackUnsub c => exact ⟨.takeOk c, rfl, (Step.takeOk hpc ((h.ack c).mpr hpc)).isSome⟩

theorem sys_step {cfg : Cfg} {s s' : St} {a : Act} (h : Inv s) (hm : s.misuse = false) (ha : a.isEnv = false)
    (hs : step cfg s a = some s') : Inv s' ∧ s'.misuse = false ∧ s'.mu < s.mu := by
  have hs' := step_iff.mp hs
  have hm' : s'.misuse = false := ((step_misuse_eq hs').resolve_right fun e => by rw [ha] at e; cases e.1).trans hm
  exact ⟨inv_step h hs' hm', hm', mu_step h ha hs'⟩

theorem run_cons {cfg : Cfg} {s s' : St} {a : Act} (hs : step cfg s a = some s') (l : List Act) :
    run cfg s (a :: l) = run cfg s' l := by
  show run cfg (step' cfg s a) l = _
  unfold step'; rw [hs]; rfl

theorem inv_allEnabled {cfg : Cfg} : ∀ (acts : List Act) (s : St), Inv s → s.misuse = false →
    (∀ a ∈ acts, a.isEnv = false) → allEnabled cfg s acts →
    Inv (run cfg s acts) ∧ (run cfg s acts).misuse = false ∧ (run cfg s acts).mu + acts.length ≤ s.mu := by
  intro acts
  induction acts with
  | nil => intro s h hm _ _; exact ⟨h, hm, by simp [run]⟩
  | cons a l ih =>
    intro s h hm hsys ⟨s', hs, hl⟩
    obtain ⟨h', hm', hmu⟩ := sys_step h hm (hsys a (List.mem_cons_self ..)) hs
    rw [run_cons hs]
    obtain ⟨i1, i2, i3⟩ := ih s' h' hm' (fun b hb => hsys b (List.mem_cons_of_mem _ hb)) hl
    exact ⟨i1, i2, by simp only [List.length_cons]; omega⟩

/-- from every state satisfying the invariant there is a run of at most `mu` steps of the goroutines inside the
protocol after which no call is in flight -/
theorem completes {cfg : Cfg} (hdr : cfg.unsubDrains = true) : ∀ (n : Nat) (s : St), s.mu ≤ n → Inv s →
    s.misuse = false →
    ∃ acts, (∀ a ∈ acts, a.isEnv = false) ∧ allEnabled cfg s acts ∧ ¬ (run cfg s acts).Busy := by
  intro n
  induction n with
  | zero =>
    intro s hn h hm
    refine ⟨[], by simp, trivial, fun hb => ?_⟩
    obtain ⟨a, ha, hs⟩ := no_deadlock (cfg := cfg) hdr h hb
    obtain ⟨s', hs'⟩ := Option.isSome_iff_exists.mp hs
    have := (sys_step h hm ha hs').2.2
    omega
  | succ n ih =>
    intro s hn h hm
    by_cases hb : s.Busy
    · obtain ⟨a, ha, hs⟩ := no_deadlock (cfg := cfg) hdr h hb
      obtain ⟨s', hs'⟩ := Option.isSome_iff_exists.mp hs
      obtain ⟨h', hm', hmu⟩ := sys_step h hm ha hs'
      obtain ⟨acts, h1, h2, h3⟩ := ih s' (by omega) h' hm'
      refine ⟨a :: acts, fun b hb' => ?_, ⟨s', hs', h2⟩, by rw [run_cons hs']; exact h3⟩
      rcases List.mem_cons.mp hb' with e | e
      · rw [e]; exact ha
      · exact h1 b e
    · exact ⟨[], by simp, trivial, hb⟩

end Bpmn.Model.Tracer
