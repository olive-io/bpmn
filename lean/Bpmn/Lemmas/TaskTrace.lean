import Bpmn.Model.TaskTrace
import Bpmn.Props.C01
/-! The task-request machine of Model/TaskTrace seen through its successor relation `Step`: whatever every firing act keeps,
every schedule keeps (`run_induction`). Helper lemmas for Props/C08. -/
namespace Bpmn.Lemmas.TaskTrace
open Bpmn.Model.TaskTrace

inductive Step (cfg : Cfg) (s : St) : Act → St → Prop
  | check {i} (hp : s.pc i = .start) : Step cfg s (.check i) (s.setPc i (if s.done then .returned else .passed))
  | sendBuf {i} (hp : s.pc i = .passed) (hroom : s.fwd.length < cfg.forwardCap) :
      Step cfg s (.send i) { s.setPc i .sent with fwd := s.fwd ++ [i], sendLog := s.sendLog ++ [i] }
  | sendRdv {i} (hp : s.pc i = .passed) (hcap : cfg.forwardCap = 0) (hw : s.proc = .waiting) :
      Step cfg s (.send i) { s.setPc i .sent with proc := .got (.val i), sendLog := s.sendLog ++ [i] }
  | bail {i} (hp : s.pc i = .passed)
      (hb : cfg.mode = .selDefault ∧ ¬ s.fwd.length < cfg.forwardCap ∨ cfg.mode = .selDone ∧ s.done = true) :
      Step cfg s (.bail i) (s.setPc i .returned)
  | ret {i} (hp : s.pc i = .sent) : Step cfg s (.ret i) (s.setPc i .returned)
  | recv {v rest} (hw : s.proc = .waiting) (hf : s.fwd = v :: rest) :
      Step cfg s .recv { s with proc := .got (.val v), fwd := rest }
  | fireCtx (hw : s.proc = .waiting) (hc : s.ctxDone = true) : Step cfg s .fireCtx { s with proc := .got .errCtx }
  | fireTimeout (hw : s.proc = .waiting) (ht : s.timerFired = true) :
      Step cfg s .fireTimeout { s with proc := .got .errTimeout }
  | respondBuf {v} (hg : s.proc = .got v) (hroom : s.resp.length < cfg.responseCap) :
      Step cfg s .respond { s with proc := .forwarded, resp := s.resp ++ [v], respLog := s.respLog ++ [v] }
  | respondRdv {v} (hg : s.proc = .got v) (hcap : cfg.responseCap = 0) (hw : s.cons = .waiting) :
      Step cfg s .respond { s with proc := .forwarded, cons := .got v, respLog := s.respLog ++ [v] }
  | close (hf : s.proc = .forwarded) : Step cfg s .close { s with proc := .closed, done := true }
  | consume {v rest} (hw : s.cons = .waiting) (hr : s.resp = v :: rest) :
      Step cfg s .consume { s with cons := .got v, resp := rest }
  | leave (hw : s.cons = .waiting) (hc : s.ctxDone = true) : Step cfg s .leave { s with cons := .gone }
  | cancel (hc : s.ctxDone = false) : Step cfg s .cancel { s with ctxDone := true }
  | expire (ht : s.timerFired = false) : Step cfg s .expire { s with timerFired := true }

variable {cfg : Cfg} {s s' : St} {a : Act}

theorem step_inv (h : step cfg s a = some s') : Step cfg s a s' := by
  cases a <;> dsimp only [step] at h <;> split at h <;> try cases h
  · exact .check ‹_›
  · split at h
    · cases h; exact .sendBuf ‹_› ‹_›
    · split at h <;> cases h
      next hr => exact .sendRdv ‹_› hr.1 hr.2
  · split at h
    · cases h
    · split at h <;> cases h
      exact .bail ‹_› (.inl ⟨‹_›, ‹_›⟩)
    · split at h <;> cases h
      exact .bail ‹_› (.inr ⟨‹_›, ‹_›⟩)
  · exact .ret ‹_›
  · exact .recv ‹_› ‹_›
  · next hc => exact .fireCtx hc.1 hc.2
  · next hc => exact .fireTimeout hc.1 hc.2
  · split at h
    · cases h; exact .respondBuf ‹_› ‹_›
    · split at h <;> cases h
      next hr => exact .respondRdv ‹_› hr.1 hr.2
  · exact .close ‹_›
  · exact .consume ‹_› ‹_›
  · next hc => exact .leave hc.1 hc.2
  · exact .cancel (by simpa using ‹¬ s.ctxDone = true›)
  · exact .expire (by simpa using ‹¬ s.timerFired = true›)

theorem step_of_Step (h : Step cfg s a s') : step cfg s a = some s' := by
  cases h
  case bail hp hb => rcases hb with hb | hb <;> simp [step, hp, hb]
  all_goals simp [step, *]

theorem stepD_of_Step (h : Step cfg s a s') : stepD cfg s a = s' := by
  rw [stepD, step_of_Step h]; rfl

theorem run_cons (cfg : Cfg) (s : St) (a : Act) (b : List Act) : run cfg s (a :: b) = run cfg (stepD cfg s a) b := rfl

theorem run_append (cfg : Cfg) (s : St) (a b : List Act) : run cfg s (a ++ b) = run cfg (run cfg s a) b :=
  List.foldl_append ..

theorem run_induction {P : St → Prop} (hP : ∀ {s a s'}, P s → Step cfg s a s' → P s') (sched : List Act) {s : St}
    (h : P s) : P (run cfg s sched) :=
  List.foldlRecOn sched (stepD cfg) h fun s h a _ => by
    unfold stepD
    cases hs : step cfg s a with
    | none => exact h
    | some s' => exact hP h (step_inv hs)

/-- a value `process` may legitimately deliver: its own ctx / timeout error, or the answer of the FIRST caller whose
send completed -/
def Good (log : List Nat) (v : Val) : Prop :=
  v = .errCtx ∨ v = .errTimeout ∨ ∃ i, log.head? = some i ∧ v = .val i

theorem good_append {log : List Nat} {v : Val} (x : Nat) (h : Good log v) : Good (log ++ [x]) v :=
  h.imp_right (Or.imp_right fun ⟨i, hi, hv⟩ => ⟨i, by rw [List.head?_append, hi]; rfl, hv⟩)

structure Inv (cfg : Cfg) (s : St) : Prop where
  respLen : s.respLog.length ≤ 1
  atWaiting : s.proc = .waiting → s.fwd = s.sendLog ∧ s.respLog = [] ∧ s.resp = []
  atGot : ∀ v, s.proc = .got v → Good s.sendLog v ∧ s.respLog = [] ∧ s.resp = []
  logGood : ∀ v ∈ s.respLog, Good s.sendLog v
  fwdCap : s.fwd.length ≤ cfg.forwardCap
  closedDone : s.proc = .closed → s.done = true
  respLogged : ∀ v ∈ s.resp, v ∈ s.respLog
  consLogged : ∀ v, s.cons = .got v → v ∈ s.respLog

theorem inv_init (cfg : Cfg) : Inv cfg init := by
  constructor <;> simp [init]

theorem inv_step (h : Inv cfg s) (hs : Step cfg s a s') : Inv cfg s' := by
  cases hs
  case check | bail | ret | cancel | expire => exact { h with }
  case leave => exact { h with consLogged := nofun }
  case sendBuf i _ hroom =>
    exact { h with
      atWaiting := fun hw => ⟨congrArg (· ++ [i]) (h.atWaiting hw).1, (h.atWaiting hw).2⟩
      atGot := fun v hv => ⟨good_append i (h.atGot v hv).1, (h.atGot v hv).2⟩
      logGood := fun v hv => good_append i (h.logGood v hv)
      fwdCap := by rw [List.length_append]; exact hroom }
  case sendRdv i _ hcap hw =>
    -- nothing was sent before: the buffer has no room, and `process` has not received yet
    have hl : s.sendLog = [] := by
      have hf := h.fwdCap
      rw [hcap] at hf
      rw [← (h.atWaiting hw).1]
      exact List.eq_nil_of_length_eq_zero (Nat.le_zero.mp hf)
    exact { h with
      atWaiting := nofun
      atGot := fun v hv => by cases hv; exact ⟨.inr (.inr ⟨i, by rw [hl]; rfl, rfl⟩), (h.atWaiting hw).2⟩
      logGood := fun v hv => good_append i (h.logGood v hv)
      closedDone := nofun }
  case recv v rest hw hf =>
    obtain ⟨hl, he⟩ := h.atWaiting hw
    exact { h with
      atWaiting := nofun
      atGot := fun w hw' => by cases hw'; exact ⟨.inr (.inr ⟨v, by rw [← hl, hf]; rfl, rfl⟩), he⟩
      fwdCap := Nat.le_of_succ_le (by have := h.fwdCap; rwa [hf] at this)
      closedDone := nofun }
  case fireCtx hw _ | fireTimeout hw _ =>
    exact { h with
      atWaiting := nofun
      atGot := fun w hw' => by cases hw'; exact ⟨by simp [Good], (h.atWaiting hw).2⟩
      closedDone := nofun }
  case respondBuf v hg _ =>
    obtain ⟨hgood, hl, hr⟩ := h.atGot v hg
    exact { h with
      respLen := by rw [hl]; exact Nat.le_refl 1
      atWaiting := nofun
      atGot := nofun
      logGood := fun w hw => by rw [hl] at hw; cases List.mem_singleton.mp hw; exact hgood
      closedDone := nofun
      respLogged := fun w hw => by rw [hr] at hw; rw [hl]; exact hw
      consLogged := fun w hw => List.mem_append_left _ (h.consLogged w hw) }
  case respondRdv v hg _ _ =>
    obtain ⟨hgood, hl, hr⟩ := h.atGot v hg
    exact { h with
      respLen := by rw [hl]; exact Nat.le_refl 1
      atWaiting := nofun
      atGot := nofun
      logGood := fun w hw => by rw [hl] at hw; cases List.mem_singleton.mp hw; exact hgood
      closedDone := nofun
      respLogged := fun w hw => List.mem_append_left _ (h.respLogged w hw)
      consLogged := fun w hw => by cases hw; exact List.mem_append_right _ (List.mem_singleton_self _) }
  case close =>
    exact { h with
      atWaiting := nofun
      atGot := nofun
      closedDone := fun _ => rfl }
  case consume v rest _ hr =>
    have hne : s.resp ≠ [] := by rw [hr]; exact List.cons_ne_nil _ _
    exact { h with
      atWaiting := fun hw => absurd (h.atWaiting hw).2.2 hne
      atGot := fun w hw => absurd (h.atGot w hw).2.2 hne
      respLogged := fun w hw => h.respLogged w (hr ▸ List.mem_cons_of_mem _ hw)
      consLogged := fun w hw => by cases hw; exact h.respLogged _ (hr ▸ List.mem_cons_self ..) }

theorem inv_run (sched : List Act) (h : Inv cfg s) : Inv cfg (run cfg s sched) :=
  run_induction inv_step sched h

theorem done_stable (hs : Step cfg s a s') (hd : s.done = true) : s'.done = true := by
  cases hs <;> first | exact hd | rfl

theorem setPc_self (s : St) (i : Nat) (p : Pc) : (s.setPc i p).pc i = p := if_pos rfl

theorem setPc_ne (s : St) {i j : Nat} (p : Pc) (h : j ≠ i) : (s.setPc i p).pc j = s.pc j := if_neg h

theorem setPc_rank_mono (s : St) {i : Nat} {p : Pc} (h : pcRank (s.pc i) ≤ pcRank p) (j : Nat) :
    pcRank (s.pc j) ≤ pcRank ((s.setPc i p).pc j) := by
  show _ ≤ pcRank (if j = i then p else s.pc j)
  split
  · next e => rw [e]; exact h
  · exact Nat.le_refl _

theorem caller_rank_mono (hs : Step cfg s a s') (j : Nat) : pcRank (s.pc j) ≤ pcRank (s'.pc j) := by
  cases hs
  case check hp => exact setPc_rank_mono s (by rw [hp]; exact Nat.zero_le _) j
  case sendBuf hp _ | sendRdv hp _ _ | bail hp _ | ret hp => exact setPc_rank_mono s (by rw [hp]; decide) j
  all_goals exact Nat.le_refl _

def ownActs (i : Nat) : List Act := [.check i, .send i, .bail i, .ret i]

theorem caller_own_step {i : Nat} (ha : a ∈ ownActs i) (hs : Step cfg s a s') : pcRank (s.pc i) < pcRank (s'.pc i) := by
  simp only [ownActs, List.mem_cons, List.mem_nil_iff, or_false] at ha
  rcases ha with rfl | rfl | rfl | rfl <;> cases hs <;> simp only [setPc_self, ‹s.pc i = _›]
  · cases s.done <;> decide
  all_goals decide

theorem proc_rank_mono (hs : Step cfg s a s') : procRank s.proc ≤ procRank s'.proc := by
  cases hs
  case sendRdv _ _ hw | recv hw _ | fireCtx hw _ | fireTimeout hw _ => rw [hw]; exact Nat.zero_le _
  case respondBuf hg _ | respondRdv hg _ _ => rw [hg]; exact Nat.le_succ 1
  case close hf => rw [hf]; exact Nat.le_succ 2
  all_goals exact Nat.le_refl _

/-- `caller_own_step` for `process`, over `step` itself -/
theorem proc_own_step (cfg : Cfg) (s s' : St) (a : Act) (ha : a ∈ [Act.recv, .fireCtx, .fireTimeout, .respond, .close])
    (hs : step cfg s a = some s') : procRank s.proc < procRank s'.proc := by
  simp only [List.mem_cons, List.mem_nil_iff, or_false] at ha
  rcases ha with rfl | rfl | rfl | rfl | rfl <;> cases step_inv hs <;> rw [‹s.proc = _›] <;>
    exact Nat.lt_succ_self _

theorem run_rank_mono (cfg : Cfg) (s : St) (sched : List Act) (i : Nat) :
    pcRank (s.pc i) ≤ pcRank ((run cfg s sched).pc i) :=
  run_induction (P := fun t => pcRank (s.pc i) ≤ pcRank (t.pc i)) (fun h hs => Nat.le_trans h (caller_rank_mono hs i))
    sched (Nat.le_refl _)

/-- Caller `i` sits behind the `done` check with the buffer full, `process` will not receive again, and the send has no way
out: it is a plain one, or its only alternative is `<-done` and `done` is never closed because `process` holds an answer
that an unbuffered `response` without a reader never takes. -/
def Stuck (cfg : Cfg) (i : Nat) (s : St) : Prop :=
  s.pc i = .passed ∧ cfg.forwardCap ≤ s.fwd.length ∧ s.proc ≠ .waiting ∧
    (cfg.mode = .blocking ∨
      cfg.mode = .selDone ∧ cfg.responseCap = 0 ∧ (∃ v, s.proc = .got v) ∧ s.cons = .gone ∧ s.done = false)

theorem stuck_step {i : Nat} (h : Stuck cfg i s) (hs : Step cfg s a s') : Stuck cfg i s' := by
  obtain ⟨hp, hf, hw, hm⟩ := h
  have other {j : Nat} {p : Pc} (hj : s.pc j ≠ .passed) : (s.setPc j p).pc i = .passed := by
    show (if i = j then p else s.pc i) = _
    rw [if_neg (fun e : i = j => hj (e ▸ hp))]; exact hp
  cases hs
  case check hj | ret hj => exact ⟨other (by rw [hj]; nofun), hf, hw, hm⟩
  case sendBuf hroom => exact absurd hroom (Nat.not_lt.mpr hf)
  case bail hb => rcases hm with hm | ⟨hm, _, _, _, hd⟩ <;> simp [*] at hb
  case sendRdv hw' | recv hw' _ | fireCtx hw' _ | fireTimeout hw' _ => exact absurd hw' hw
  case respondBuf hroom =>
    exact ⟨hp, hf, nofun, hm.elim .inl fun ⟨_, hr, _⟩ => absurd hroom (by rw [hr]; exact Nat.not_lt_zero _)⟩
  case respondRdv hc' => exact ⟨hp, hf, nofun, hm.elim .inl fun ⟨_, _, _, hc, _⟩ => nomatch hc'.symm.trans hc⟩
  case close hf' => exact ⟨hp, hf, nofun, hm.elim .inl fun ⟨_, _, ⟨_, hv⟩, _⟩ => nomatch hf'.symm.trans hv⟩
  case consume hc' _ | leave hc' _ => exact ⟨hp, hf, hw, hm.elim .inl fun ⟨_, _, _, hc, _⟩ => nomatch hc'.symm.trans hc⟩
  case cancel | expire => exact ⟨hp, hf, hw, hm⟩

theorem stuck_run {i : Nat} (sched : List Act) (h : Stuck cfg i s) : Stuck cfg i (run cfg s sched) :=
  run_induction stuck_step sched h

/-- Fresh callers `b, b+1, …` fill what room the buffer has left; caller 0, stuck as soon as the buffer is full
(`hstuck`), is then stuck. -/
theorem fill_stuck (cfg : Cfg) : ∀ (n b : Nat) (s : St), 0 < b → s.done = false → s.fwd.length + n = cfg.forwardCap →
    (∀ j, b ≤ j → s.pc j = .start) → (∀ f, cfg.forwardCap ≤ f.length → Stuck cfg 0 { s with fwd := f }) →
    Stuck cfg 0 (run cfg s (fill b n))
  | 0, _, s, _, _, hroom, _, hstuck => hstuck s.fwd (Nat.le_of_eq hroom.symm)
  | n + 1, b, s, hb, hopen, hroom, hfresh, hstuck => by
    have e1 : stepD cfg s (.check b) = s.setPc b .passed := by
      rw [stepD_of_Step (.check (hfresh b (Nat.le_refl b))), hopen]; rfl
    have e2 : stepD cfg (s.setPc b .passed) (.send b) =
        { (s.setPc b .passed).setPc b .sent with fwd := s.fwd ++ [b], sendLog := s.sendLog ++ [b] } :=
      stepD_of_Step (.sendBuf (setPc_self s b .passed) (by show s.fwd.length < _; omega))
    rw [fill, run_cons, e1, run_cons, e2]
    have other {j : Nat} (hj : j ≠ b) : ((s.setPc b .passed).setPc b .sent).pc j = s.pc j :=
      (setPc_ne _ _ hj).trans (setPc_ne _ _ hj)
    exact fill_stuck cfg n (b + 1) _ (Nat.succ_pos b) hopen
      (by show (s.fwd ++ [b]).length + n = _; rw [List.length_append]; exact (by omega : s.fwd.length + 1 + n = cfg.forwardCap))
      (fun j hj => (other (Nat.ne_of_gt hj)).trans (hfresh j (Nat.le_of_lt hj)))
      (fun f hf => have ⟨h0, rest⟩ := hstuck f hf; ⟨(other (Nat.ne_of_lt hb)).trans h0, rest⟩)

theorem witnessBlocking_prefix (cfg : Cfg) :
    let s1 := run cfg init [.check 0, .check 1, .send 1, .recv]
    s1.pc 0 = .passed ∧ s1.done = false ∧ s1.proc ≠ .waiting ∧ s1.fwd = [] ∧ (∀ j, 2 ≤ j → s1.pc j = .start) := by
  rcases Nat.eq_zero_or_pos cfg.forwardCap with hc | hc <;> simp [run, stepD, step, init, St.setPc, hc] <;>
    exact fun j hj => by rw [if_neg (by omega), if_neg (by omega), if_neg (by omega)]

theorem witnessNoReader_prefix (cfg : Cfg) :
    let s1 := run cfg init [.cancel, .leave, .fireCtx, .check 0]
    s1.pc 0 = .passed ∧ s1.done = false ∧ s1.proc = .got .errCtx ∧ s1.cons = .gone ∧ s1.fwd = [] ∧
      (∀ j, 1 ≤ j → s1.pc j = .start) := by
  simp [run, stepD, step, init, St.setPc]
  intro j hj
  omega

theorem witness_stuck (cfg : Cfg) (h : Ok cfg = false) : Stuck cfg 0 (run cfg init (witness cfg)) := by
  unfold Ok at h
  unfold witness
  split at h
  · next hm =>
    rw [hm]
    show Stuck cfg 0 (run cfg init (_ ++ _))
    rw [run_append]
    obtain ⟨h0, hopen, hw, hf, hfresh⟩ := witnessBlocking_prefix cfg
    generalize run cfg init [.check 0, .check 1, .send 1, .recv] = s1 at *
    exact fill_stuck cfg _ 2 _ (by decide) hopen (by rw [hf]; exact Nat.zero_add _) hfresh
      fun f hfull => ⟨h0, hfull, hw, .inl hm⟩
  · cases h
  · next hm =>
    rw [hm]
    show Stuck cfg 0 (run cfg init (_ ++ _))
    rw [run_append]
    obtain ⟨h0, hopen, hp, hc, hf, hfresh⟩ := witnessNoReader_prefix cfg
    generalize run cfg init [.cancel, .leave, .fireCtx, .check 0] = s1 at *
    exact fill_stuck cfg _ 1 _ (by decide) hopen (by rw [hf]; exact Nat.zero_add _) hfresh
      fun f hfull => ⟨h0, hfull, by rw [hp]; nofun,
        .inr ⟨hm, Nat.eq_zero_of_not_pos (of_decide_eq_false h), ⟨_, hp⟩, hc, hopen⟩⟩

theorem ok_cases (hok : Ok cfg = true) : cfg.mode = .selDefault ∨ cfg.mode = .selDone ∧ 1 ≤ cfg.responseCap := by
  unfold Ok at hok
  split at hok
  · cases hok
  · exact .inl ‹_›
  · exact .inr ⟨‹_›, of_decide_eq_true hok⟩

theorem tt_progress (cfg : Cfg) (hok : Ok cfg = true) (s : St) (h : Inv cfg s) (i : Nat) (hn : s.pc i ≠ .returned) :
    ∃ a ∈ coreActs i, (step cfg s a).isSome = true := by
  have fires {a : Act} {s' : St} (hs : Step cfg s a s') (ha : a ∈ coreActs i := by simp [coreActs]) :
      ∃ a ∈ coreActs i, (step cfg s a).isSome = true :=
    ⟨a, ha, by rw [step_of_Step hs]; rfl⟩
  cases hp : s.pc i with
  | returned => exact absurd hp hn
  | start => exact fires (.check hp)
  | sent => exact fires (.ret hp)
  | passed =>
    by_cases hroom : s.fwd.length < cfg.forwardCap
    · exact fires (.sendBuf hp hroom)
    rcases ok_cases hok with hm | ⟨hm, hrc⟩
    · exact fires (.bail hp (.inl ⟨hm, hroom⟩))
    by_cases hd : s.done = true
    · exact fires (.bail hp (.inr ⟨hm, hd⟩))
    -- `done` is still open, so `process` has a step left; if it waits with nothing to receive, the send is a hand-over
    cases hproc : s.proc with
    | waiting =>
      cases hf : s.fwd with
      | nil => exact fires (.sendRdv hp (by rw [hf] at hroom; exact Nat.eq_zero_of_not_pos hroom) hproc)
      | cons v rest => exact fires (.recv hproc hf)
    | got v => exact fires (.respondBuf hproc (by rw [(h.atGot v hproc).2.2]; exact hrc))
    | forwarded => exact fires (.close hproc)
    | closed => exact absurd (h.closedDone hproc) hd

theorem proc_finishes (cfg : Cfg) (hrc : 1 ≤ cfg.responseCap) (s : St) (h : Inv cfg s) :
    (run cfg s [.recv, .respond, .close]).done = true ∨
      (run cfg s [.recv, .respond, .close]).proc = .waiting ∧ (run cfg s [.recv, .respond, .close]).fwd = [] := by
  have hpos : 0 < cfg.responseCap := hrc
  cases hp : s.proc with
  | waiting =>
    have he := (h.atWaiting hp).2.2
    cases hf : s.fwd with
    | nil => right; simp [run, stepD, step, hp, hf]
    | cons v rest => left; simp [run, stepD, step, hp, hf, he, hpos]
  | got v => left; simp [run, stepD, step, hp, (h.atGot v hp).2.2, hpos]
  | forwarded => left; simp [run, stepD, step, hp]
  | closed => left; simpa [run, stepD, step, hp] using h.closedDone hp

theorem send_bail (cfg : Cfg) (s : St) (i : Nat) (hp : s.pc i = .passed)
    (hg : cfg.mode = .selDefault ∨ cfg.mode = .selDone ∧ s.done = true ∨ s.proc = .waiting ∧ s.fwd = []) :
    2 ≤ pcRank ((run cfg s [.send i, .bail i]).pc i) := by
  by_cases hroom : s.fwd.length < cfg.forwardCap
  · simp [run, stepD, step, hp, St.setPc, hroom, pcRank]
  by_cases hr : cfg.forwardCap = 0 ∧ s.proc = .waiting
  · simp [run, stepD, step, hp, St.setPc, hr, pcRank]
  rcases hg with hm | ⟨hm, hd⟩ | ⟨hw, hf⟩
  · simp [run, stepD, step, hp, St.setPc, hroom, hr, hm, pcRank]
  · simp [run, stepD, step, hp, St.setPc, hroom, hr, hm, hd, pcRank]
  · rw [hf] at hroom
    exact absurd ⟨Nat.eq_zero_of_not_pos hroom, hw⟩ hr

theorem tt_drive (cfg : Cfg) (hok : Ok cfg = true) (s : St) (h : Inv cfg s) (i : Nat) :
    (run cfg s (drive i)).pc i = .returned := by
  have e : drive i = [.check i] ++ ([.send i, .bail i] ++ ([.recv, .respond, .close] ++ ([.send i, .bail i] ++ [.ret i]))) := rfl
  rw [e, run_append, run_append, run_append, run_append]
  -- `hk`: the caller's rank after the first `k` acts of `drive i`. After the check the caller has started; what its
  -- first `send`/`bail` did plays no role
  have h1 : 1 ≤ pcRank ((run cfg s [.check i]).pc i) := by
    cases hp : s.pc i <;> cases hd : s.done <;> simp [run, stepD, step, hp, hd, St.setPc, pcRank]
  have h3 := Nat.le_trans h1 (run_rank_mono cfg _ [.send i, .bail i] i)
  have hinv : Inv cfg (run cfg (run cfg s [.check i]) [.send i, .bail i]) := inv_run _ (inv_run _ h)
  generalize run cfg (run cfg s [.check i]) [.send i, .bail i] = s3 at h3 hinv
  -- then `process` runs, and the second `send`/`bail` gets the caller past its send
  have h6 := Nat.le_trans h3 (run_rank_mono cfg s3 [.recv, .respond, .close] i)
  have h8 : 2 ≤ pcRank ((run cfg (run cfg s3 [.recv, .respond, .close]) [.send i, .bail i]).pc i) := by
    cases hp : (run cfg s3 [.recv, .respond, .close]).pc i
    case start => rw [hp] at h6; exact absurd h6 (by decide)
    case passed =>
      refine send_bail cfg _ i hp ?_
      rcases ok_cases hok with hm | ⟨hm, hrc⟩
      · exact .inl hm
      · exact .inr ((proc_finishes cfg hrc s3 hinv).imp_left fun hd => ⟨hm, hd⟩)
    all_goals exact Nat.le_trans (by rw [hp]; decide) (run_rank_mono cfg _ [.send i, .bail i] i)
  generalize run cfg (run cfg s3 [.recv, .respond, .close]) [.send i, .bail i] = s8 at h8
  cases hp : s8.pc i <;> rw [hp] at h8 <;> first | exact absurd h8 (by decide) | simp [run, stepD, step, hp, St.setPc]

section
open Bpmn.Model

theorem requests_append (a b : List Ev) : requests (a ++ b) = requests a + requests b :=
  List.countP_append ..

theorem errSwitch_retry (td : Int) (r : Option Retry) (n : Int) :
    errSwitch td r (.mode 1 n) =
      if n = -1 ∨ n > attemptsOf r then (.rerequest, some ⟨n, attemptsOf r + 1⟩) else (.endToken, some ⟨n, attemptsOf r⟩) := by
  cases r <;> simp [errSwitch, Retry.reset, Retry.isContinue, Retry.stepR, retrySentinel, attemptsOf]

theorem requests_tokenRun_cons (td : Int) (r : Option Retry) (a : Ans) (rest : List Ans) :
    requests (tokenRun td r (a :: rest)).1 =
      1 + if (onAnswer td r a).2.1 = .rerequest then requests (tokenRun td (onAnswer td r a).2.2 rest).1 else 0 := by
  have hev : requests (onAnswer td r a).1 = 0 := by cases a <;> rfl
  have hreq (l : List Ev) : requests (.request :: l) = 1 + requests l := (List.countP_cons_of_pos rfl).trans (Nat.add_comm ..)
  rw [tokenRun]
  generalize onAnswer td r a = x at hev
  obtain ⟨evs, o, r'⟩ := x
  cases o <;> simp only [hreq, List.cons_append, requests_append, hev, Nat.zero_add, if_pos, reduceCtorEq, if_false] <;> rfl

theorem requests_retry (td : Int) (r : Option Retry) (n : Int) (rest : List Ans) :
    requests (tokenRun td r (.err (.mode 1 n) :: rest)).1 =
      1 + if n = -1 ∨ n > attemptsOf r then requests (tokenRun td (some ⟨n, attemptsOf r + 1⟩) rest).1 else 0 := by
  rw [requests_tokenRun_cons]
  show (1 + if (errSwitch td r (.mode 1 n)).1 = .rerequest then requests (tokenRun td (errSwitch td r (.mode 1 n)).2 rest).1
    else 0) = _
  rw [errSwitch_retry]
  split <;> rfl

/-- `f` failures answered with the retry count `n`, then a success: a failure is retried while the count allows -/
theorem retry_exact (td n : Int) : ∀ (f : Nat) (r : Option Retry),
    requests (tokenRun td r (failThenOk n f)).1 = 1 + if n = -1 then f else min (n - attemptsOf r).toNat f := by
  intro f
  induction f with
  | zero => intro r; show requests (tokenRun td r [.ok]).1 = _; rw [requests_tokenRun_cons, if_neg nofun, Nat.min_zero, ite_self]
  | succ f ih =>
    intro r
    show requests (tokenRun td r (.err (.mode 1 n) :: failThenOk n f)).1 = _
    rw [requests_retry, ih]
    show (1 + if n = -1 ∨ n > attemptsOf r then 1 + (if n = -1 then f else min (n - (attemptsOf r + 1)).toNat f) else 0) = _
    by_cases hn : n = -1
    · rw [if_pos (.inl hn), if_pos hn, if_pos hn, Nat.add_comm 1 f]
    · rw [if_neg hn, if_neg hn]
      split
      · have e : (n - attemptsOf r).toNat = (n - (attemptsOf r + 1)).toNat + 1 := by omega
        rw [e, Nat.succ_min_succ, Nat.add_comm 1 (min _ _)]
      · rw [Int.toNat_of_nonpos (by omega), Nat.zero_min]

theorem rerequest_only_on_retry {td : Int} {r : Option Retry} {a : Ans} (h : (onAnswer td r a).2.1 = .rerequest) :
    ∃ k, a = .err (.mode 1 k) := by
  match a with
  | .ok => cases h
  | .err .none => cases h
  | .err (.mode m k) =>
    replace h : (errSwitch td r (.mode m k)).1 = .rerequest := h
    unfold errSwitch at h
    split at h
    · cases h
    · next h' => cases h'; exact ⟨_, rfl⟩
    · cases h
    · cases h

theorem retry_bound_aux (td n : Int) : ∀ (answers : List Ans) (r : Option Retry),
    BoundedBy n answers → requests (tokenRun td r answers).1 ≤ 1 + (n - attemptsOf r).toNat := by
  intro answers
  induction answers with
  | nil => intro r _; exact Nat.le_add_right 1 _
  | cons a rest ih =>
    intro r hb
    by_cases ha : ∃ k, a = .err (.mode 1 k)
    · obtain ⟨k, rfl⟩ := ha
      obtain ⟨hk1, hk2⟩ := hb k (List.mem_cons_self ..)
      have := ih (some ⟨k, attemptsOf r + 1⟩) fun k hk => hb k (List.mem_cons_of_mem _ hk)
      rw [requests_retry]
      split
      · replace this : _ ≤ 1 + (n - (attemptsOf r + 1)).toNat := this
        omega
      · omega
    · rw [requests_tokenRun_cons, if_neg fun h => ha (rerequest_only_on_retry h)]
      exact Nat.le_add_right 1 _

open Bpmn.Model.Engine

theorem get_set_eq (vs : Vars) (k : String) (v : Int) : (vs.set k v).get k = some v := by
  unfold Vars.set Vars.get
  split
  · next hany =>
    induction vs with
    | nil => cases hany
    | cons x xs ih =>
      rw [List.any_cons] at hany
      rw [List.map_cons]
      cases hx : x.1 == k
      · rw [hx, Bool.false_or] at hany
        rw [if_neg Bool.false_ne_true, List.find?_cons_of_neg (by rw [hx]; exact Bool.false_ne_true)]
        exact ih hany
      · rw [if_pos rfl, List.find?_cons_of_pos (by exact beq_self_eq_true k)]; rfl
  · next hany =>
    have hnone : vs.find? (·.1 == k) = none :=
      List.find?_eq_none.mpr fun x hx hk => hany (List.any_eq_true.mpr ⟨x, hx, hk⟩)
    rw [List.find?_append, hnone, Option.none_or, List.find?_cons_of_pos (by exact beq_self_eq_true k)]; rfl

theorem restrictTo_cons (supplied : List (String × Int)) (nm : String) (rest : List String) (store : Vars) :
    restrictTo (nm :: rest) Vars.set store supplied =
      restrictTo rest Vars.set ((supplied? supplied nm).elim store (store.set nm)) supplied := by
  unfold restrictTo supplied?
  rw [List.foldl_cons]
  cases supplied.find? (·.1 == nm) <;> rfl

theorem restrictTo_get (supplied : List (String × Int)) (k : String) : ∀ (declared : List String) (store : Vars),
    (restrictTo declared Vars.set store supplied).get k =
      if k ∈ declared then (supplied? supplied k).orElse (fun _ => store.get k) else store.get k
  | [], store => rfl
  | nm :: rest, store => by
    rw [restrictTo_cons, restrictTo_get supplied k rest]
    by_cases hk : k = nm
    · subst hk
      rw [if_pos (List.mem_cons_self ..)]
      cases supplied? supplied k with
      | none => exact ite_self _
      | some v =>
        show (if k ∈ rest then some v else (store.set k v).get k) = some v
        rw [get_set_eq]; exact ite_self _
    · have hstep : ((supplied? supplied nm).elim store (store.set nm)).get k = store.get k := by
        cases supplied? supplied nm with
        | none => rfl
        | some v => exact Bpmn.Props.C01.get_set_ne store nm k v (Ne.symm hk)
      rw [hstep]
      simp only [List.mem_cons, hk, false_or]

theorem applyDeclared_eq (n : Node) (vars : Vars) (results : List (String × Int)) :
    applyDeclared n vars results = if n.hasResults then restrictTo n.results Vars.set vars results else vars := by
  unfold applyDeclared restrictTo
  cases n.hasResults
  · simp
  · simp only [Bool.not_true, Bool.false_eq_true, if_false, if_true]
    congr 1
    funext vs name
    cases results.find? (fun x => x.1 == name) with
    | none => rfl
    | some q => rfl

end

end Bpmn.Lemmas.TaskTrace
