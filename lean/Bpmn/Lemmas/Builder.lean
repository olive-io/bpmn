import Bpmn.Model.Builder
/-!
The process builder keeps its process well-formed. Once ids are unique, `link` is a `map` over the nodes
(`linkStore_eq`); every id drawn so far is bounded by the call counter (`Below`), so the next ones are fresh.
-/
namespace Bpmn.Lemmas.Builder
open Bpmn.Model.Builder

theorem insertByRank_perm (n : Node) (l : List Node) : (insertByRank n l).Perm (n :: l) := by
  induction l with
  | nil => exact .refl _
  | cons m ms ih =>
    unfold insertByRank
    split
    · exact .refl _
    · exact (ih.cons m).trans (.swap n m ms)

theorem sortByRank_perm (l : List Node) : (sortByRank l).Perm l := by
  induction l with
  | nil => exact .refl _
  | cons n ns ih => exact (insertByRank_perm n _).trans (ih.cons n)

theorem mem_flowNodes (p : Proc) (n : Node) : n ∈ flowNodes p ↔ n ∈ p.nodes :=
  (sortByRank_perm p.nodes).mem_iff

def setOut (id : Id) (out : List Id) (n : Node) : Node :=
  { n with outgoing := if n.id = id then out else n.outgoing }

theorem setOut_of_ne {id : Id} {n : Node} (h : n.id ≠ id) (out : List Id) : setOut id out n = n := by
  rw [setOut, if_neg h]

/-- `nd` being what `FindBy` found: with unique ids it is the only node with its id, so it is the one touched -/
theorem modifyFirst_setOut (out : List Id) (nd : Node) (l : List Node) (hnd : (l.map (·.id)).Nodup) (hmem : nd ∈ l) :
    modifyFirst (fun n => n.id = nd.id && n.kind.rank = nd.kind.rank) (fun n => { n with outgoing := out }) l =
      l.map (setOut nd.id out) := by
  induction l with
  | nil => rfl
  | cons n ns ih =>
    rw [List.map_cons, List.nodup_cons] at hnd
    rw [modifyFirst, List.map_cons]
    by_cases h : n.id = nd.id
    · obtain rfl : nd = n := (List.mem_cons.mp hmem).elim id fun h' =>
        absurd (List.mem_map.mpr ⟨nd, h', h.symm⟩) hnd.1
      have hns : ∀ m ∈ ns, setOut nd.id out m = m := fun m hm =>
        setOut_of_ne (fun hm' => hnd.1 (List.mem_map.mpr ⟨m, hm, hm'⟩)) out
      rw [List.map_congr_left hns, List.map_id', setOut, if_pos rfl]
      simp only [decide_true, Bool.and_self, if_true]
    · rw [ih hnd.2 ((List.mem_cons.mp hmem).resolve_left fun e => h (e ▸ rfl)), setOut_of_ne h]
      simp only [h, decide_false, Bool.false_and, Bool.false_eq_true, if_false]

theorem setOutgoing_eq (p : Proc) (id : Id) (out : List Id)
    (hp : p.id ≠ id) (hf : ∀ f ∈ p.flows, f.id ≠ id) (hex : ∃ nd ∈ p.nodes, nd.id = id)
    (hnd : (p.nodes.map (·.id)).Nodup) :
    setOutgoing p id out = { p with nodes := p.nodes.map (setOut id out) } := by
  obtain ⟨nd, hmem, hid⟩ := hex
  unfold setOutgoing findNode
  rw [if_neg hp]
  cases hfind : (flowNodes p).find? (fun n => decide (n.id = id)) with
  | none =>
    exact absurd hid (by simpa using List.find?_eq_none.mp hfind nd ((mem_flowNodes p nd).mpr hmem))
  | some nd' =>
    obtain rfl : nd'.id = id := by simpa using List.find?_some hfind
    have hany : p.flows.any (fun f => decide (f.id = nd'.id)) = false :=
      List.any_eq_false.mpr fun f hf' => by simpa using hf f hf'
    simp only [hany, Bool.false_and, Bool.false_eq_true, if_false]
    rw [modifyFirst_setOut out nd' _ hnd ((mem_flowNodes p nd').mp (List.mem_of_find?_eq_some hfind))]

/-- the id was produced by one of the `RandBytes` calls `lo … n-1`, or is one of the presets `ps` -/
def Below (o : Nat → Nat) (lo n : Nat) (ps : List Nat) : Id → Prop
  | .gen _ tok => ∃ k, lo ≤ k ∧ k < n ∧ tok = o k
  | .preset m => m ∈ ps

/-- an activity kind the type switch `st` of `AddActivity` stores -/
def actOk (st : Kind → Bool) (k : Kind) : Prop := st k = true ∧ k ≠ .startEvent ∧ k ≠ .endEvent

instance (st : Kind → Bool) (k : Kind) : Decidable (actOk st k) := by unfold actOk; infer_instance

/-- everything C19 asks of a process; `Below` bounds its ids, for the freshness of those drawn later -/
structure ProcWF (o : Nat → Nat) (lo n : Nat) (ps : List Nat) (p : Proc) : Prop where
  nodup : p.ids.Nodup
  below : ∀ i ∈ p.ids, Below o lo n ps i
  flows : ∀ f ∈ p.flows, (∃ s ∈ p.nodes, s.id = f.src ∧ f.id ∈ s.outgoing) ∧
    (∃ t ∈ p.nodes, t.id = f.tgt ∧ f.id ∈ t.incoming)
  startIn : ∀ nd ∈ p.nodes, nd.kind = .startEvent → nd.incoming = []
  endOut : ∀ nd ∈ p.nodes, nd.kind = .endEvent → nd.outgoing = []

structure PBInv (o : Nat → Nat) (lo n : Nat) (ps : List Nat) (b : PB) : Prop extends ProcWF o lo n ps b.proc where
  lo_le : lo ≤ n
  ptrEx : ∃ nd ∈ b.proc.nodes, nd.id = b.ptrId
  ptrAll : ∀ nd ∈ b.proc.nodes, nd.id = b.ptrId → nd.outgoing = b.ptrOut
  noEnd : ∀ nd ∈ b.proc.nodes, nd.kind ≠ .endEvent

theorem ids_unfold (p : Proc) : p.ids = p.id :: (p.nodes.map (·.id) ++ p.flows.map (·.id)) := rfl

theorem mem_ids_of_node {p : Proc} {nd : Node} (h : nd ∈ p.nodes) : nd.id ∈ p.ids :=
  List.mem_cons_of_mem _ (List.mem_append_left _ (List.mem_map.mpr ⟨nd, h, rfl⟩))

theorem ids_link_perm (p : Proc) (ns : List Node) (hns : ns.map (·.id) = p.nodes.map (·.id)) (nd : Node) (f : Flow) :
    ({ p with nodes := ns ++ [nd], flows := p.flows ++ [f] } : Proc).ids.Perm (nd.id :: f.id :: p.ids) := by
  simp only [ids_unfold, List.map_append, List.map_cons, List.map_nil, hns, List.append_assoc, List.singleton_append]
  refine ((List.Perm.cons _ (List.perm_middle.trans (.cons _ ?_))).trans (.swap _ _ _)).trans (.cons _ (.swap _ _ _))
  rw [← List.append_assoc]
  exact List.perm_append_singleton _ _

theorem forall_mem_map_append {α β : Type} {f : α → β} {l : List α} {y : β} {P : β → Prop}
    (h1 : ∀ x ∈ l, P (f x)) (h2 : P y) : ∀ z ∈ l.map f ++ [y], P z := fun z hz => by
  rcases List.mem_append.mp hz with hz | hz
  · obtain ⟨x, hx, rfl⟩ := List.mem_map.mp hz
    exact h1 x hx
  · exact List.mem_singleton.mp hz ▸ h2

/-- `link` followed by storing the linked node (what `AddActivity` does for a stored type, and `Out` for the end) -/
def linkStore (o : Nat → Nat) (n : Nat) (b : PB) (id : Id) (kind : Kind) : PB :=
  let r := link o n b id kind
  { r.1 with proc := { r.1.proc with nodes := r.1.proc.nodes ++ [r.2.1] } }

theorem newPB_inv (o : Nat → Nat) (n : Nat) : PBInv o n (n + 2) [] (newPB o n).1 := by
  have hids : (newPB o n).1.proc.ids = [Id.gen .process (o n), Id.gen .event (o (n + 1))] := rfl
  exact {
    nodup := hids ▸ List.pairwise_pair.mpr nofun
    below := hids ▸ List.forall_mem_cons.mpr ⟨⟨n, Nat.le_refl n, Nat.lt_add_of_pos_right (Nat.zero_lt_succ 1), rfl⟩,
      List.forall_mem_singleton.mpr ⟨n + 1, Nat.le_add_right n 1, Nat.lt_succ_self _, rfl⟩⟩
    flows := fun _ h => nomatch h
    startIn := List.forall_mem_singleton.mpr fun _ => rfl
    endOut := List.forall_mem_singleton.mpr nofun
    lo_le := Nat.le_add_right n 2
    ptrEx := ⟨_, List.mem_singleton_self _, rfl⟩
    ptrAll := List.forall_mem_singleton.mpr fun _ => rfl
    noEnd := List.forall_mem_singleton.mpr nofun }

theorem addActivity_stored (st : Kind → Bool) (o : Nat → Nat) (n : Nat) (b : PB) (k : Kind) (pre : Option Nat)
    (hk : st k = true) :
    addActivity st o n b k pre = match pre with
      | some m => (linkStore o n b (Id.preset m) k, n + 1)
      | none => (linkStore o (n + 1) b (Id.gen .activity (o n)) k, n + 2) := by
  cases pre <;> simp only [addActivity, hk, if_true] <;> rfl

theorem outPB_counter (o : Nat → Nat) (n : Nat) (b : PB) : (outPB o n b).2.2 = n + 4 := rfl

section
variable {o : Nat → Nat} {lo lo' n n' : Nat} {ps ps' : List Nat} {i : Id} {b : PB} {st : Kind → Bool}

theorem below_mono (h : Below o lo n ps i) (hl : lo' ≤ lo) (hn : n ≤ n') (hp : ∀ m ∈ ps, m ∈ ps') :
    Below o lo' n' ps' i := by
  cases i with
  | gen p tok => obtain ⟨k, h1, h2, h3⟩ := h; exact ⟨k, Nat.le_trans hl h1, Nat.lt_of_lt_of_le h2 hn, h3⟩
  | preset m => exact hp m h

theorem linkStore_eq (inv : PBInv o lo n ps b) (m : Nat) (id : Id) (kind : Kind) :
    linkStore o m b id kind =
      { proc := { b.proc with
                  nodes := b.proc.nodes.map (setOut b.ptrId (b.ptrOut ++ [Id.gen .flow (o m)])) ++
                    [⟨id, kind, [Id.gen .flow (o m)], []⟩],
                  flows := b.proc.flows ++ [⟨Id.gen .flow (o m), b.ptrId, id⟩] },
        ptrId := id, ptrOut := [] } := by
  obtain ⟨nd, hnd, hid⟩ := inv.ptrEx
  have hnd' := inv.nodup
  rw [ids_unfold, List.nodup_cons, List.nodup_append] at hnd'
  have hmemId : b.ptrId ∈ b.proc.nodes.map (·.id) := List.mem_map.mpr ⟨nd, hnd, hid⟩
  have h1 : b.proc.id ≠ b.ptrId := fun h => hnd'.1 (h ▸ List.mem_append_left _ hmemId)
  have h2 : ∀ f ∈ b.proc.flows, f.id ≠ b.ptrId := fun f hf h =>
    hnd'.2.2.2 _ hmemId _ (List.mem_map.mpr ⟨f, hf, rfl⟩) h.symm
  unfold linkStore link
  simp only [setOutgoing_eq b.proc b.ptrId _ h1 h2 ⟨nd, hnd, hid⟩ hnd'.2.1]

variable (hinj : ∀ a b, o a = o b → a = b)
include hinj

theorem below_disjoint (h1 : Below o lo n ps i) (h2 : Below o lo' n' ps' i) (hle : n ≤ lo')
    (hps : ∀ m ∈ ps, m ∉ ps') : False := by
  cases i with
  | gen p tok =>
    obtain ⟨k, _, hk, rfl⟩ := h1
    obtain ⟨k', hk', _, h⟩ := h2
    have := hinj _ _ h
    omega
  | preset m => exact hps m h1 h2

theorem fresh_gen {L : List Id} (hL : ∀ i ∈ L, Below o lo n ps i) (p : Pfx) {k : Nat} (hk : n ≤ k) :
    Id.gen p (o k) ∉ L := fun hmem =>
  below_disjoint hinj (ps' := []) (hL _ hmem) ⟨k, Nat.le_refl k, Nat.lt_succ_self k, rfl⟩ hk fun _ _ h => nomatch h

/-- `m`: the call that names the flow -/
theorem linkStore_inv (inv : PBInv o lo n ps b) {m : Nat} (id : Id) (kind : Kind)
    (hfresh : id ∉ b.proc.ids) (hne : id ≠ Id.gen .flow (o m)) (hbelow : Below o lo n' ps' id)
    (hm : n ≤ m) (hn : m < n') (hps : ∀ m ∈ ps, m ∈ ps') (hk : kind ≠ .startEvent) :
    ProcWF o lo n' ps' (linkStore o m b id kind).proc ∧
      (kind ≠ .endEvent → PBInv o lo n' ps' (linkStore o m b id kind)) := by
  have hsid : Id.gen .flow (o m) ∉ b.proc.ids := fresh_gen hinj inv.below .flow hm
  have hperm := ids_link_perm b.proc (b.proc.nodes.map (setOut b.ptrId (b.ptrOut ++ [Id.gen .flow (o m)])))
    (by rw [List.map_map]; rfl) ⟨id, kind, [Id.gen .flow (o m)], []⟩ ⟨Id.gen .flow (o m), b.ptrId, id⟩
  have hnn' : n ≤ n' := Nat.le_of_lt (Nat.lt_of_le_of_lt hm hn)
  rw [linkStore_eq inv m id kind]
  -- a node of the new process is an old one with its outgoing list possibly longer, or the new one
  suffices wf : ProcWF o lo n' ps' _ from ⟨wf, fun hk' =>
    ⟨wf, Nat.le_trans inv.lo_le hnn', ⟨_, List.mem_append_right _ (List.mem_singleton_self _), rfl⟩,
      forall_mem_map_append (fun x hx (hid : x.id = id) => absurd (hid ▸ mem_ids_of_node hx) hfresh) fun _ => rfl,
      forall_mem_map_append (fun x hx => inv.noEnd x hx) hk'⟩⟩
  refine ⟨?_, ?_, ?_, forall_mem_map_append (fun x hx => inv.startIn x hx) (fun h => absurd h hk),
    forall_mem_map_append (fun x hx h => absurd h (inv.noEnd x hx)) fun _ => rfl⟩
  · refine hperm.nodup_iff.mpr (List.nodup_cons.mpr ⟨?_, List.nodup_cons.mpr ⟨hsid, inv.nodup⟩⟩)
    exact fun h => (List.mem_cons.mp h).elim hne hfresh
  · intro i hi
    rcases List.mem_cons.mp (hperm.mem_iff.mp hi) with rfl | hi
    · exact hbelow
    · rcases List.mem_cons.mp hi with rfl | hi
      · exact ⟨m, Nat.le_trans inv.lo_le hm, hn, rfl⟩
      · exact below_mono (inv.below i hi) (Nat.le_refl lo) hnn' hps
  · intro f hf
    rcases List.mem_append.mp hf with hf | hf
    · -- an old flow: its ends are still there, the source's outgoing list has at most grown
      obtain ⟨⟨s, hs, hsrc, hout⟩, ⟨t, ht, htgt, hin⟩⟩ := inv.flows f hf
      refine ⟨⟨_, List.mem_append_left _ (List.mem_map_of_mem hs), hsrc, ?_⟩,
        ⟨_, List.mem_append_left _ (List.mem_map_of_mem ht), htgt, hin⟩⟩
      show f.id ∈ if s.id = b.ptrId then _ else _
      split
      · next h => exact List.mem_append_left _ (inv.ptrAll s hs h ▸ hout)
      · exact hout
    · -- the new flow: from the cursor's node to the new node
      obtain rfl := List.mem_singleton.mp hf
      obtain ⟨nd, hnd, hid⟩ := inv.ptrEx
      refine ⟨⟨_, List.mem_append_left _ (List.mem_map_of_mem hnd), hid, ?_⟩,
        ⟨_, List.mem_append_right _ (List.mem_singleton_self _), rfl, List.mem_singleton_self _⟩⟩
      show _ ∈ if nd.id = b.ptrId then _ else _
      rw [if_pos hid]
      exact List.mem_append_right _ (List.mem_singleton_self _)

theorem addActivity_inv (inv : PBInv o lo n ps b) (k : Kind) (pre : Option Nat) (hk : actOk st k)
    (hpre : ∀ m, pre = some m → m ∉ ps) :
    PBInv o lo (addActivity st o n b k pre).2 (ps ++ pre.toList) (addActivity st o n b k pre).1 := by
  rw [addActivity_stored st o n b k pre hk.1]
  have hps : ∀ m ∈ ps, m ∈ ps ++ pre.toList := fun _ h => List.mem_append_left _ h
  cases pre with
  | some m =>
    -- the flow is named by call `n`
    exact (linkStore_inv hinj inv (.preset m) k (hfresh := fun h => hpre m rfl (inv.below _ h)) (hne := nofun)
      (hbelow := List.mem_append_right ps (List.mem_singleton_self m)) (hm := Nat.le_refl n) (hn := Nat.lt_succ_self n)
      hps hk.2.1).2 hk.2.2
  | none =>
    -- the node is named by call `n`, the flow by call `n + 1`
    exact (linkStore_inv hinj inv _ k (hfresh := fresh_gen hinj inv.below .activity (Nat.le_refl n)) (hne := nofun)
      (hbelow := ⟨n, inv.lo_le, Nat.lt_add_of_pos_right (Nat.zero_lt_succ 1), rfl⟩) (hm := Nat.le_succ n)
      (hn := Nat.lt_succ_self _) hps hk.2.1).2 hk.2.2

theorem addAll_inv (acts : List (Kind × Option Nat)) :
    ∀ {n : Nat} {ps : List Nat} {b : PB}, PBInv o lo n ps b → (∀ a ∈ acts, actOk st a.1) →
      (ps ++ acts.filterMap (·.2)).Nodup →
      PBInv o lo (addAll st o n b acts).2 (ps ++ acts.filterMap (·.2)) (addAll st o n b acts).1 := by
  induction acts with
  | nil => intro n ps b inv _ _; rw [List.filterMap_nil, List.append_nil]; exact inv
  | cons a rest ih =>
    intro n ps b inv hok hnd
    obtain ⟨k, pre⟩ := a
    have hcons : ((k, pre) :: rest).filterMap (·.2) = pre.toList ++ rest.filterMap (·.2) := by cases pre <;> rfl
    rw [hcons, ← List.append_assoc] at hnd ⊢
    have hpre : ∀ m, pre = some m → m ∉ ps := fun m hm hmem =>
      (List.nodup_append.mp (List.nodup_append.mp hnd).1).2.2 m hmem m (hm ▸ List.mem_singleton_self m) rfl
    exact ih (addActivity_inv hinj inv k pre (hok _ List.mem_cons_self) hpre)
      (fun a ha => hok a (List.mem_cons_of_mem _ ha)) hnd

theorem outPB_wf (inv : PBInv o lo n ps b) : ProcWF o lo (outPB o n b).2.2 ps (outPB o n b).1 :=
  (linkStore_inv hinj inv _ .endEvent (hfresh := fresh_gen hinj inv.below .event (Nat.le_refl n)) (hne := nofun)
    (hbelow := ⟨n, inv.lo_le, Nat.lt_add_of_pos_right (Nat.zero_lt_succ 3), rfl⟩) (hm := Nat.le_succ n)
    (hn := Nat.lt_add_of_pos_right (Nat.zero_lt_succ 2)) (hps := fun _ h => h) (hk := nofun)).1

theorem buildProcess_wf (n : Nat) (acts : List (Kind × Option Nat))
    (hok : ∀ a ∈ acts, actOk st a.1) (hnd : (acts.filterMap (·.2)).Nodup) :
    ProcWF o n (buildProcess st o n acts).2 (acts.filterMap (·.2)) (buildProcess st o n acts).1 ∧
      n ≤ (buildProcess st o n acts).2 := by
  have inv := addAll_inv hinj acts (newPB_inv o n) hok (by rwa [List.nil_append])
  rw [List.nil_append] at inv
  exact ⟨outPB_wf hinj inv, Nat.le_trans inv.lo_le (Nat.le_add_right _ 4)⟩

end

/-- each script starts at a value of the call counter not below the one the previous build ended with
(in between the definitions builder may have drawn ids of its own) -/
def Chained (st : Kind → Bool) (o : Nat → Nat) : Nat → List (Nat × List (Kind × Option Nat)) → Prop
  | _, [] => True
  | lo, sc :: rest => lo ≤ sc.1 ∧ Chained st o (buildProcess st o sc.1 sc.2).2 rest

def presetsOf (scripts : List (Nat × List (Kind × Option Nat))) : List Nat :=
  scripts.flatMap (fun sc => sc.2.filterMap (·.2))

def builtProcs (st : Kind → Bool) (o : Nat → Nat) (scripts : List (Nat × List (Kind × Option Nat))) : List Proc :=
  scripts.map (fun sc => (buildProcess st o sc.1 sc.2).1)

theorem built_ids_nodup {st : Kind → Bool} {o : Nat → Nat} (hinj : ∀ a b, o a = o b → a = b) :
    ∀ (scripts : List (Nat × List (Kind × Option Nat))) (lo : Nat), Chained st o lo scripts →
      (∀ sc ∈ scripts, ∀ a ∈ sc.2, actOk st a.1) → (presetsOf scripts).Nodup →
      ((builtProcs st o scripts).flatMap Proc.ids).Nodup ∧
      ∀ i ∈ (builtProcs st o scripts).flatMap Proc.ids, ∃ top, Below o lo top (presetsOf scripts) i := by
  intro scripts
  induction scripts with
  | nil => intro lo _ _ _; exact ⟨.nil, fun _ h => (nomatch h)⟩
  | cons sc rest ih =>
    intro lo hch hok hnd
    rw [presetsOf, List.flatMap_cons, List.nodup_append] at hnd
    obtain ⟨wf, hle⟩ := buildProcess_wf hinj sc.1 sc.2 (hok sc List.mem_cons_self) hnd.1
    obtain ⟨ih1, ih2⟩ := ih _ hch.2 (fun sc' h => hok sc' (List.mem_cons_of_mem _ h)) hnd.2.1
    rw [builtProcs, List.map_cons, List.flatMap_cons, presetsOf, List.flatMap_cons]
    constructor
    · refine List.nodup_append.mpr ⟨wf.nodup, ih1, ?_⟩
      rintro a ha _ hb rfl
      obtain ⟨_, hb'⟩ := ih2 a hb
      exact below_disjoint hinj (wf.below a ha) hb' (Nat.le_refl _) (fun m hm hm' => hnd.2.2 m hm m hm' rfl)
    · intro i hi
      rcases List.mem_append.mp hi with hi | hi
      · exact ⟨_, below_mono (wf.below i hi) hch.1 (Nat.le_refl _) fun m hm => List.mem_append_left _ hm⟩
      · obtain ⟨top, hb⟩ := ih2 i hi
        exact ⟨top, below_mono hb (Nat.le_trans hch.1 hle) (Nat.le_refl _) fun m hm => List.mem_append_right _ hm⟩

end Bpmn.Lemmas.Builder
