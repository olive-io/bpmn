import Bpmn.Model.IdGen
/-! Helper lemmas for C20: the fallback counter invariant, the inductive invariant of the sno small-step machine
when `SnoGenerator.New` is serialised by a mutex, the partition invariant that holds serialised or not, and the
simulation of the unserialised machine by the serialised one when a single thread draws. -/
namespace Bpmn.Model.IdGen

theorem ite_both {α : Sort _} {P : α → Prop} {c : Prop} [Decidable c] {a b : α} (ha : P a) (hb : P b) :
    P (if c then a else b) :=
  iteInduction (fun _ => ha) fun _ => hb

theorem nodup_flatMap_of_tag {α β γ : Type} (f : α → List β) (key : α → γ) (tag : β → γ) (l : List α)
    (h1 : ∀ a ∈ l, (f a).Nodup ∧ ∀ x ∈ f a, tag x = key a)
    (h2 : l.Pairwise (fun a b => key a ≠ key b)) : (l.flatMap f).Nodup :=
  List.pairwise_flatMap.2 ⟨fun a ha => (h1 a ha).1, h2.imp_of_mem fun ha hb hab x hx y hy e =>
    hab (((h1 _ ha).2 x hx).symm.trans (e ▸ (h1 _ hb).2 y hy))⟩

@[simp] theorem upd_same {α : Type} (f : Nat → α) (i : Nat) (v : α) : upd f i v i = v := if_pos rfl
theorem upd_other {α : Type} (f : Nat → α) (i j : Nat) (v : α) (h : j ≠ i) : upd f i v j = f j := if_neg h

structure FbInv (p : FbPrefix) (g : FbGen) : Prop where
  pfx : g.pfx = p
  nodup : g.out.Nodup
  bound : ∀ x ∈ g.out, x.pfx = p ∧ x.n ≤ g.counter

theorem fbInv_new (p : FbPrefix) : FbInv p (fbNew p) := ⟨rfl, List.nodup_nil, nofun⟩

theorem fbInv_step (p : FbPrefix) (g : FbGen) (i : Nat) (h : FbInv p g) (hb : g.counter + 1 < u64) :
    FbInv p (fbStep true g i) ∧ (fbStep true g i).counter = g.counter + 1 := by
  show FbInv p { g with counter := (g.counter + 1) % u64, out := ⟨g.pfx, (g.counter + 1) % u64⟩ :: g.out } ∧
    (g.counter + 1) % u64 = g.counter + 1
  rw [Nat.mod_eq_of_lt hb]
  refine ⟨⟨h.pfx, List.nodup_cons.2 ⟨fun hmem => ?_, h.nodup⟩, List.forall_mem_cons.2 ⟨⟨h.pfx, Nat.le_refl _⟩, ?_⟩⟩, rfl⟩
  · exact Nat.not_succ_le_self _ (h.bound _ hmem).2
  · exact fun x hx => ⟨(h.bound x hx).1, Nat.le_succ_of_le (h.bound x hx).2⟩

theorem fbInv_run (p : FbPrefix) (sched : List Nat) (g : FbGen) (h : FbInv p g)
    (hb : g.counter + sched.length < u64) : FbInv p (fbRun true g sched) := by
  induction sched generalizing g with
  | nil => exact h
  | cons i is ih =>
    rw [List.length_cons] at hb
    obtain ⟨h1, hc⟩ := fbInv_step p g i h (by omega)
    exact ih _ h1 (by omega)

theorem fbStep_mono (a : Bool) (g : FbGen) (i : Nat) (x : FbId) (hx : x ∈ g.out) : x ∈ (fbStep a g i).out := by
  unfold fbStep
  cases a
  · simp only [Bool.false_eq_true, if_false]
    split
    · exact hx
    · exact List.mem_cons_of_mem _ hx
  · exact List.mem_cons_of_mem _ hx

theorem fbRun_mono (a : Bool) (sched : List Nat) (g : FbGen) (x : FbId) (hx : x ∈ g.out) :
    x ∈ (fbRun a g sched).out :=
  List.foldlRecOn (motive := fun g => x ∈ g.out) sched _ hx fun g hg i _ => fbStep_mono a g i x hg

theorem fbRun_first (p : FbPrefix) (s : List Nat) (h : s ≠ []) : ⟨p, 1⟩ ∈ (fbRun true (fbNew p) s).out := by
  cases s with
  | nil => exact absurd rfl h
  | cons i is => exact fbRun_mono true is _ _ (List.mem_cons_self ..)

/-! ### creation of fallback generators: serial numbers make prefixes distinct whatever the clock says -/

theorem fbProgram_cons (c : Nat) (clk : Nat) (s : List Nat) (rest : List (Nat × List Nat)) :
    fbProgram true c ((clk, s) :: rest) = (⟨clk, (c + 1) % u64⟩, s) :: fbProgram true ((c + 1) % u64) rest := rfl

theorem fbProgram_pairwise (gs : List (Nat × List Nat)) (c : Nat) (hb : c + gs.length < u64) :
    (fbProgram true c gs).Pairwise (fun a b => a.1 ≠ b.1) ∧ ∀ a ∈ fbProgram true c gs, c < a.1.serial := by
  induction gs generalizing c with
  | nil => exact ⟨.nil, nofun⟩
  | cons g rest ih =>
    rw [List.length_cons] at hb
    rw [fbProgram_cons, Nat.mod_eq_of_lt (by omega)]
    obtain ⟨ih1, ih2⟩ := ih (c + 1) (by omega)
    exact ⟨.cons (fun b hbm e => Nat.lt_irrefl _ (congrArg FbPrefix.serial e ▸ ih2 b hbm)) ih1,
      List.forall_mem_cons.2 ⟨Nat.lt_succ_self c, fun a ha => Nat.lt_of_succ_lt (ih2 a ha)⟩⟩

theorem fbProgram_sched (w : Bool) (gs : List (Nat × List Nat)) (c : Nat) :
    (fbProgram w c gs).map (·.2) = gs.map (·.2) := by
  induction gs generalizing c with
  | nil => rfl
  | cons g rest ih =>
    unfold fbProgram
    split <;> exact congrArg (g.2 :: ·) (ih _)

def lexLt (a b : SnoId) : Prop := a.time < b.time ∨ (a.time = b.time ∧ a.seq < b.seq)

/-- Every id handed out so far is, for the generator state, "in the past". The last disjunct is what lets `restore` and
the overflow ticker set `seq` back: an id stamped `wallHi` with a larger `seq` does no harm once the clock is ahead of
`wallHi`, because the next draw then takes the CAS branch and moves `wallHi` on. -/
def Old (g : Gen) (now : Nat) (x : SnoId) : Prop :=
  x.part = g.part ∧ (x.time < g.wallHi ∨ (x.time = g.wallHi ∧ (x.seq ≤ g.seq ∨ g.wallHi < now)))

/-- what the thread holding the mutex knows at each program point -/
def PcInv (g : Gen) (now ovfCount : Nat) (out : List SnoId) : Pc → Prop
  | .idle => ovfCount = 0
  | .start => ovfCount = 0
  | .gotHi hi => hi = g.wallHi ∧ ovfCount = 0
  | .gotNow hi c => hi = g.wallHi ∧ hi ≤ c ∧ c ≤ now ∧ ovfCount = 0 ∧
      (c = hi → ∀ x ∈ out, x.time = g.wallHi → x.seq ≤ g.seq)
  | .added c s => c = g.wallHi ∧ s = g.seq ∧ ovfCount = 0 ∧ ∀ x ∈ out, x.time = g.wallHi → x.seq < g.seq
  | .ovf => ovfCount = 1
  | .casOk c => c = g.wallHi ∧ ovfCount = 0 ∧ ∀ x ∈ out, x.time < g.wallHi
  | .reset c => c = g.wallHi ∧ g.seq = g.seqMin ∧ ovfCount = 0 ∧ ∀ x ∈ out, x.time < g.wallHi
  | _ => False  -- the regression branch: never entered by the one holder of the mutex, since `wallHi ≤ now`

structure Inv (p : Nat) (st : St) : Prop where
  part : st.g.part = p
  sorted : st.out.Pairwise (fun newer older => lexLt older newer)
  hi_le : st.g.wallHi ≤ st.now
  old : ∀ x ∈ st.out, Old st.g st.now x
  reg : st.regLock = none
  others : ∀ j, st.mutex ≠ some j → st.pcs j = .idle
  free : st.mutex = none → st.ovfCount = 0 ∧ st.active = 0
  held : ∀ h, st.mutex = some h → PcInv st.g st.now st.ovfCount st.out (st.pcs h) ∧ st.active = 1

theorem old_mono {g g' : Gen} {now now' : Nat} {x : SnoId} (h : Old g now x) (hp : g'.part = g.part)
    (hw : g.wallHi < g'.wallHi ∨ (g'.wallHi = g.wallHi ∧ (g.seq ≤ g'.seq ∨ g.wallHi < now') ∧ now ≤ now')) :
    Old g' now' x := by
  refine ⟨h.1.trans hp.symm, ?_⟩
  rcases hw with hw | ⟨e, hs, hn⟩
  · exact .inl (h.2.elim (fun h => Nat.lt_trans h hw) fun h => h.1 ▸ hw)
  · rw [e]
    exact h.2.imp_right fun h => ⟨h.1, h.2.elim (fun h' => hs.imp_left (Nat.le_trans h')) fun h' =>
      .inr (Nat.lt_of_lt_of_le h' hn)⟩

theorem old_time_le {g : Gen} {now : Nat} {x : SnoId} (h : Old g now x) : x.time ≤ g.wallHi :=
  h.2.elim Nat.le_of_lt fun h => Nat.le_of_eq h.1

theorem old_seq {g : Gen} {now : Nat} {x : SnoId} (h : Old g now x) (ht : x.time = g.wallHi) :
    x.seq ≤ g.seq ∨ g.wallHi < now :=
  h.2.elim (fun hlt => absurd ht (Nat.ne_of_lt hlt)) And.right

theorem pcInv_tick {g : Gen} {now oc : Nat} {out : List SnoId} {pc : Pc} (h : PcInv g now oc out pc) :
    PcInv g (now + 1) oc out pc := by
  cases pc with
  | gotNow hi c => exact ⟨h.1, h.2.1, Nat.le_succ_of_le h.2.2.1, h.2.2.2⟩
  | _ => exact h

/-- only a thread waiting for the sequence to be reset is counted in `seqOverflowCount` -/
theorem pcInv_ovf_of_count {g : Gen} {now oc : Nat} {out : List SnoId} {pc : Pc} (h : PcInv g now oc out pc)
    (hc : oc ≠ 0) : pc = .ovf := by
  cases pc with
  | ovf => rfl
  | idle | start => exact absurd h hc
  | gotHi => exact absurd h.2 hc
  | gotNow => exact absurd h.2.2.2.1 hc
  | added => exact absurd h.2.2.1 hc
  | casOk => exact absurd h.2.1 hc
  | reset => exact absurd h.2.2.1 hc
  | _ => exact h.elim

theorem inv_init (g : Gen) (now : Nat) (h : g.wallHi ≤ now) : Inv g.part (init g now) :=
  { part := rfl, sorted := .nil, hi_le := h, old := nofun, reg := rfl, others := fun _ _ => rfl,
    free := fun _ => ⟨rfl, rfl⟩, held := nofun }

theorem inv_frame {p : Nat} {st : St} (h : Inv p st) {g' : Gen} {now' : Nat} {pcs' : Nat → Pc} {oc' : Nat}
    (hpart : g'.part = st.g.part) (hhi : g'.wallHi ≤ now') (hold : ∀ x ∈ st.out, Old g' now' x)
    (hothers : ∀ j, st.mutex ≠ some j → pcs' j = .idle) (hfree : st.mutex = none → oc' = 0)
    (hheld : ∀ t, st.mutex = some t → PcInv g' now' oc' st.out (pcs' t)) :
    Inv p { st with g := g', now := now', pcs := pcs', ovfCount := oc' } :=
  { h with
    part := hpart.trans h.part
    hi_le := hhi
    old := hold
    others := hothers
    free := fun hm => ⟨hfree hm, (h.free hm).2⟩
    held := fun t ht => ⟨hheld t ht, (h.held t ht).2⟩ }

theorem inv_tick (p : Nat) (st : St) (h : Inv p st) : Inv p { st with now := st.now + 1 } :=
  inv_frame h rfl (Nat.le_succ_of_le h.hi_le)
    (fun x hx => old_mono (h.old x hx) rfl (.inr ⟨rfl, .inl (Nat.le_refl _), Nat.le_succ _⟩))
    h.others (fun hm => (h.free hm).1) (fun t ht => pcInv_tick (h.held t ht).1)

theorem inv_ovfLoop (p : Nat) (st : St) (h : Inv p st) : Inv p (stepOvfLoop st) := by
  unfold stepOvfLoop
  refine iteInduction (fun _ => h) fun hc => iteInduction (fun _ => h) fun _ => iteInduction (fun hlt => ?_) fun _ => h
  -- the thread counted in `ovfCount` holds the mutex and waits at `.ovf`, where it relies on nothing about `seq`
  refine inv_frame h rfl h.hi_le
    (fun x hx => old_mono (h.old x hx) rfl (.inr ⟨rfl, .inr hlt, Nat.le_refl _⟩))
    h.others (fun hm => (h.free hm).1) fun t ht => ?_
  have h1 := (h.held t ht).1
  have e := pcInv_ovf_of_count h1 hc
  rw [e] at h1 ⊢
  exact h1

theorem restore_seq (g : Gen) (now : Nat) (h : g.wallHi ≤ now) :
    g.seq ≤ (restoreGen (snapshot g now)).seq ∨ g.wallHi < now := by
  by_cases hn : now = g.wallHi
  · refine .inl ?_
    show g.seq ≤ if (if now = g.wallHi then g.seq else g.seqMin) = 0 then g.seqMin else
      if now = g.wallHi then g.seq else g.seqMin
    rw [if_pos hn]
    exact iteInduction (fun h0 => h0 ▸ Nat.zero_le _) fun _ => Nat.le_refl _
  · exact .inr (Nat.lt_of_le_of_ne h (Ne.symm hn))

theorem inv_restore (p : Nat) (st : St) (h : Inv p st) : Inv p (stepRestore st) := by
  unfold stepRestore
  refine iteInduction (fun ha => ?_) fun _ => h
  have hm : st.mutex = none := by
    cases hm : st.mutex with
    | none => rfl
    | some t => have := (h.held t hm).2; omega
  have := inv_frame h (g' := restoreGen (snapshot st.g st.now)) (oc' := 0) rfl h.hi_le
    (fun x hx => old_mono (h.old x hx) rfl (.inr ⟨rfl, restore_seq st.g st.now h.hi_le, Nat.le_refl _⟩))
    h.others (fun _ => rfl) (fun t ht => by rw [hm] at ht; cases ht)
  rwa [h.reg] at this

theorem inv_holder {p : Nat} {st : St} {i : Nat} (h : Inv p st) (hne : st.pcs i ≠ .idle) :
    st.mutex = some i ∧ PcInv st.g st.now st.ovfCount st.out (st.pcs i) :=
  have hm : st.mutex = some i := Decidable.by_contra fun hm => hne (h.others i hm)
  ⟨hm, (h.held i hm).1⟩

theorem inv_local {p : Nat} {st : St} {i : Nat} (h : Inv p st) (hm : st.mutex = some i)
    {g' : Gen} {pc' : Pc} {oc' : Nat}
    (hpart : g'.part = st.g.part) (hhi : g'.wallHi ≤ st.now) (hold : ∀ x ∈ st.out, Old g' st.now x)
    (hpc : PcInv g' st.now oc' st.out pc') :
    Inv p { st with g := g', pcs := upd st.pcs i pc', ovfCount := oc' } :=
  inv_frame h hpart hhi hold
    (fun j hj => (upd_other st.pcs i j pc' fun e => hj (e ▸ hm)).trans (h.others j hj))
    (fun hn => nomatch hm.symm.trans hn)
    (fun t ht => by cases hm.symm.trans ht; rw [upd_same]; exact hpc)

theorem inv_finish {p : Nat} {st : St} {i : Nat} (h : Inv p st) (hm : st.mutex = some i) (id : SnoId)
    (hnew : ∀ x ∈ st.out, lexLt x id) (hold : Old st.g st.now id) (hoc : st.ovfCount = 0) :
    Inv p (finish true st i (some id)) :=
  { h with
    sorted := .cons hnew h.sorted
    old := List.forall_mem_cons.2 ⟨hold, h.old⟩
    others := fun j _ => by
      by_cases hji : j = i
      · exact hji ▸ upd_same _ _ _
      · exact (upd_other _ _ _ _ hji).trans (h.others j fun e => hji (Option.some.inj (e.symm.trans hm)))
    free := fun _ => ⟨hoc, by show st.active - 1 = 0; rw [(h.held i hm).2]⟩
    held := nofun }

theorem inv_thr (p : Nat) (st : St) (i : Nat) (h : Inv p st) : Inv p (stepThr true st i) := by
  unfold stepThr
  by_cases hidle : st.pcs i = .idle
  · rw [hidle]
    refine iteInduction (fun _ => h) fun hfree => ?_
    -- the mutex is free, so every thread is idle; thread i takes it
    have hm : st.mutex = none := by
      cases hm : st.mutex with
      | none => rfl
      | some t => rw [hm] at hfree; exact absurd rfl hfree
    exact { h with
            others := fun j hj =>
              (upd_other st.pcs i j .start fun e => hj (e ▸ rfl)).trans (h.others j (by rw [hm]; nofun)),
            free := nofun,
            held := fun t ht => by
              cases ht
              refine ⟨?_, by show st.active + 1 = 1; rw [(h.free hm).2]⟩
              show PcInv st.g st.now st.ovfCount st.out (upd st.pcs i .start i)
              rw [upd_same]
              exact (h.free hm).1 }
  · obtain ⟨hm, h1⟩ := inv_holder h hidle
    have hhi := h.hi_le
    generalize st.pcs i = pc at h1 hidle
    cases pc with
    | idle => exact absurd rfl hidle
    | start => exact inv_local h hm rfl hhi h.old (And.intro rfl h1)
    | gotHi hi =>
      obtain ⟨rfl, h0⟩ := h1
      refine inv_local h hm rfl hhi h.old
        (And.intro rfl ⟨hhi, Nat.le_refl _, h0, fun hc x hx hxt => ?_⟩)
      -- the clock reads `wallHi`: an id stamped `wallHi` was not handed out before the clock got there
      exact (old_seq (h.old x hx) hxt).resolve_right (Nat.not_lt_of_le (Nat.le_of_eq hc))
    | gotNow hi c =>
      obtain ⟨rfl, hle, hnow, hcount, hsame⟩ := h1
      have hseq : ∀ x ∈ st.out, Old { st.g with seq := st.g.seq + 1 } st.now x := fun x hx =>
        old_mono (h.old x hx) rfl (.inr ⟨rfl, .inl (Nat.le_succ _), Nat.le_refl _⟩)
      -- the `if`s of `stepThr` here: does the clock still read `wallHi` (then: is `seq + 1` within bounds)? has it
      -- moved on (then: does the CAS on `wallHi` succeed — it does, `wallHi` was loaded under the mutex)? The
      -- regression branch is left with `clock < wallHi`, which `hle` excludes.
      refine iteInduction (fun hsame' => iteInduction (fun _ => ?fast) fun _ => ?overflow) fun hmoved =>
        iteInduction (fun hlt => iteInduction (fun _ => ?cas) fun hfail => absurd rfl hfail) fun hge =>
          absurd (Nat.lt_of_le_of_ne hle (Ne.symm hmoved)) hge
      case fast =>
        exact inv_local h hm rfl hhi hseq
          (And.intro hsame' ⟨rfl, hcount, fun x hx hxt => Nat.lt_succ_of_le (hsame hsame' x hx hxt)⟩)
      case overflow =>
        -- the thread is counted and waits
        exact inv_local h hm rfl hhi hseq (congrArg (· + 1) hcount)
      case cas =>
        -- everything handed out is older than the new `wallHi`
        exact inv_local h hm rfl hnow
          (fun x hx => old_mono (h.old x hx) rfl (.inl hlt))
          (And.intro rfl ⟨hcount, fun x hx => Nat.lt_of_le_of_lt (old_time_le (h.old x hx)) hlt⟩)
    | added c s =>
      obtain ⟨rfl, rfl, hcount, hbelow⟩ := h1
      refine inv_finish h hm _ (fun x hx => ?_) ⟨rfl, .inr ⟨rfl, .inl (Nat.le_refl _)⟩⟩ hcount
      exact (Nat.lt_or_eq_of_le (old_time_le (h.old x hx))).imp_right fun e => ⟨e, hbelow x hx e⟩
    | ovf =>
      refine iteInduction (fun _ => h) fun _ => ?_
      exact inv_local h hm rfl hhi h.old
        (congrArg (· - 1) (show st.ovfCount = 1 from h1))
    | casOk c =>
      obtain ⟨hc, hcount, holder⟩ := h1
      exact inv_local h hm rfl hhi (fun x hx => ⟨(h.old x hx).1, .inl (holder x hx)⟩)
        (And.intro hc ⟨rfl, hcount, holder⟩)
    | reset c =>
      obtain ⟨rfl, hmin, hcount, holder⟩ := h1
      exact inv_finish h hm _ (fun x hx => .inl (holder x hx))
        ⟨rfl, .inr ⟨rfl, .inl (Nat.le_of_eq hmin.symm)⟩⟩ hcount
    | _ => exact h1.elim

theorem inv_step (p : Nat) (st : St) (e : Ev) (h : Inv p st) : Inv p (step true st e) := by
  cases e with
  | tick => exact inv_tick p st h
  | thr i => exact inv_thr p st i h
  | ovfLoop => exact inv_ovfLoop p st h
  | restore => exact inv_restore p st h

theorem lexLt_irrefl (a : SnoId) : ¬ lexLt a a := fun h => h.elim (Nat.lt_irrefl _) fun h => Nat.lt_irrefl _ h.2

theorem nodup_of_sorted (l : List SnoId) (h : l.Pairwise (fun newer older => lexLt older newer)) : l.Nodup := by
  refine List.Pairwise.imp (fun hab e => ?_) h
  exact lexLt_irrefl _ (e ▸ hab)

/-! ### every id carries the partition — for any schedule, serialised or not -/

def PartInv (p : Nat) (st : St) : Prop := st.g.part = p ∧ ∀ x ∈ st.out, x.part = p

theorem partInv_step (p : Nat) (ser : Bool) (st : St) (e : Ev) (h : PartInv p st) : PartInv p (step ser st e) := by
  -- an id is stamped with the generator's partition; no step changes the partition
  have new (id : SnoId) (hid : id.part = st.g.part) : ∀ x ∈ id :: st.out, x.part = p :=
    List.forall_mem_cons.2 ⟨hid.trans h.1, h.2⟩
  cases e with
  | tick => exact h
  | ovfLoop => exact ite_both h (ite_both h (ite_both h h))
  | restore => exact ite_both h h
  | thr i =>
    show PartInv p (stepThr ser st i)
    unfold stepThr
    cases st.pcs i with
    | idle => exact ite_both h h
    | gotNow hi c => exact ite_both (ite_both h h) (ite_both (ite_both h h) h)
    | ovf => exact ite_both h h
    | regWant c => cases st.regLock <;> exact h
    | regHeld c => exact ite_both h (ite_both h h)
    | added c s => exact ⟨h.1, new _ rfl⟩
    | reset c => exact ⟨h.1, new _ rfl⟩
    | regD c => exact ⟨h.1, new _ rfl⟩
    | _ => exact h

/-! ### one drawing thread: the unserialised machine behaves like the serialised one -/

def Solo : Ev → Prop
  | .thr i => i = 0
  | _ => True

/-- the serialised machine's state for a run in which only thread 0 draws: the mutex is held exactly while thread 0
is inside `New` -/
def lock (s : St) : St := { s with mutex := if s.pcs 0 = .idle then none else some 0 }

theorem solo_sim (s : St) (e : Ev) (he : Solo e) : step true (lock s) e = lock (step false s e) := by
  cases e with
  | tick => rfl
  | ovfLoop => simp only [step, stepOvfLoop, apply_ite lock]; rfl
  | restore => simp only [step, stepRestore, apply_ite lock]; rfl
  | thr i =>
    cases (he : i = 0)
    simp only [step]
    unfold stepThr setPc finish
    -- every branch computes: the mutex field on both sides is decided by the program point of thread 0
    rw [show (lock s).pcs 0 = s.pcs 0 from rfl, show (lock s).regLock = s.regLock from rfl,
      show (lock s).mutex = (if s.pcs 0 = .idle then none else some 0) from rfl]
    cases s.pcs 0 with
    | gotNow hi c => simp only [apply_ite lock]; rfl
    | ovf => simp only [apply_ite lock]; rfl
    | regWant c => cases s.regLock <;> rfl
    | regHeld c => simp only [apply_ite lock]; rfl
    | _ => rfl

theorem solo_run (sched : List Ev) (hs : ∀ e ∈ sched, Solo e) (s : St) :
    run true (lock s) sched = lock (run false s sched) := by
  induction sched generalizing s with
  | nil => rfl
  | cons e es ih =>
    rw [List.forall_mem_cons] at hs
    exact (congrArg (run true · es) (solo_sim s e hs.1)).trans (ih hs.2 _)

theorem solo_out (g0 : Gen) (now0 : Nat) (sched : List Ev) (hs : ∀ e ∈ sched, Solo e) :
    (run false (init g0 now0) sched).out = (run true (init g0 now0) sched).out :=
  (congrArg St.out (solo_run sched hs (init g0 now0))).symm

end Bpmn.Model.IdGen
