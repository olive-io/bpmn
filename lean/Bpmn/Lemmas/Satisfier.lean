import Bpmn.Model.Satisfier
/-! Lemmas for C14.

The invariant `Inv` speaks of which chains there are, not of their order. So there is one lemma per way `satisfy`
changes the chains, stated with the chain concerned in front, and `inv_of_perm` brings it there and back. -/
namespace Bpmn.Model.Satisfier

theorem splitFirst_spec {α : Type} (p : α → Bool) : ∀ l : List α,
    match splitFirst p l with
    | none => ∀ x ∈ l, p x = false
    | some (l1, y, l2) => l = l1 ++ y :: l2 ∧ p y = true ∧ ∀ x ∈ l1, p x = false
  | [] => nofun
  | x :: xs => by
    have ih := splitFirst_spec p xs
    rw [splitFirst]
    cases hp : p x
    · cases hs : splitFirst p xs with
      | none =>
        rw [hs] at ih
        exact List.forall_mem_cons.mpr ⟨hp, ih⟩
      | some t =>
        rw [hs] at ih
        obtain ⟨h1, h2, h3⟩ := ih
        exact ⟨by rw [h1]; rfl, h2, List.forall_mem_cons.mpr ⟨hp, h3⟩⟩
    · exact ⟨rfl, hp, nofun⟩

theorem swapRemove_perm (l1 l2 : List Chain) : (swapRemove l1 l2).Perm (l1 ++ l2) := by
  unfold swapRemove
  cases h : l2.getLast? with
  | none => rw [List.getLast?_eq_none_iff.mp h, List.append_nil]
  | some z =>
    obtain ⟨ys, rfl⟩ := List.getLast?_eq_some_iff.mp h
    rw [List.dropLast_concat]
    exact List.Perm.append_left l1 (List.perm_append_comm (l₁ := [z]))

theorem has_set (c : Chain) (i k : Nat) (hi : i < c.length) :
    has (c.set i true) k = (has c k || decide (k = i)) := by
  unfold has
  by_cases hk : k = i
  · subst hk; simp [List.getD, hi]
  · have hk' : ¬ i = k := fun h => hk h.symm
    simp [List.getD, hk, hk']

theorem has_fresh (len i k : Nat) (hi : i < len) : has (fresh len i) k = decide (k = i) := by
  unfold fresh
  rw [has_set _ _ _ (by simpa using hi)]
  have : has (List.replicate len false) k = false := by
    unfold has
    by_cases hk : k < len <;> simp [List.getD, hk]
  simp [this]

theorem full_iff (c : Chain) : full c = true ↔ ∀ k, k < c.length → has c k = true := by
  unfold full has
  constructor
  · intro h k hk
    have := List.all_eq_true.mp h (c[k]) (List.getElem_mem hk)
    simp [List.getD, hk]; simpa using this
  · intro h
    apply List.all_eq_true.mpr
    intro b hb
    obtain ⟨k, hk, rfl⟩ := List.getElem_of_mem hb
    have := h k hk
    simpa [List.getD, hk] using this

theorem fresh_not_full (len i : Nat) (hi : i < len) (h2 : 2 ≤ len) : full (fresh len i) = false := by
  apply Bool.eq_false_iff.mpr
  intro hf
  have hlen : (fresh len i).length = len := by simp [fresh]
  rw [full_iff] at hf
  -- a bit other than `i`
  have := hf (if i = 0 then 1 else 0) (by rw [hlen]; split <;> omega)
  rw [has_fresh _ _ _ hi] at this
  split at this <;> simp at this <;> omega

def validEv (len : Nat) : Option Nat → Prop
  | none => True
  | some i => i < len

/-- state `s` after history `h` with `f` firings so far. `count`: every match of definition `k` fired or sits in an
open chain. `common`: some definition is held by every open chain, so when all are matched equally often no chain
is left open (`pm_exact`). -/
structure Inv (s : Sat) (h : List (Option Nat)) (f : Nat) : Prop where
  wf     : ∀ c ∈ s.chains, c.length = s.len ∧ full c = false
  common : s.chains ≠ [] → ∃ i, i < s.len ∧ ∀ c ∈ s.chains, has c i = true
  count  : ∀ k, k < s.len → matchCount h k = f + s.chains.countP (has · k)

theorem inv_init (len : Nat) (par : Bool) : Inv (Sat.init len par) [] 0 := by
  refine ⟨?_, ?_, ?_⟩ <;> simp [Sat.init, matchCount]

theorem fires_cons (b : Bool) (bs : List Bool) : fires (b :: bs) = (if b then 1 else 0) + fires bs := by
  cases b <;> simp [fires, Nat.add_comm]

theorem matchCount_snoc (h : List (Option Nat)) (e : Option Nat) (k : Nat) :
    matchCount (h ++ [e]) k = matchCount h k + (if e = some k then 1 else 0) := by
  unfold matchCount
  rw [List.count_append]
  by_cases he : e = some k <;> simp [he]

theorem inv_of_perm {s s' : Sat} {h : List (Option Nat)} {f : Nat} (inv : Inv s h f)
    (hp : s'.chains.Perm s.chains) (hl : s'.len = s.len) : Inv s' h f :=
  { wf c hc := hl ▸ inv.wf c (hp.mem_iff.mp hc)
    common hne := by
      obtain ⟨i, hi, hall⟩ := inv.common (fun h0 => hne (by simpa [h0] using hp))
      exact ⟨i, hl ▸ hi, fun c hc => hall c (hp.mem_iff.mp hc)⟩
    count k hk := by rw [hp.countP_eq]; exact inv.count k (hl ▸ hk) }

theorem inv_opened {s : Sat} {h : List (Option Nat)} {f i : Nat} (inv : Inv s h f)
    (hall : ∀ c ∈ s.chains, has c i = true) (hi : i < s.len) (h2 : 2 ≤ s.len) :
    Inv { s with chains := fresh s.len i :: s.chains } (h ++ [some i]) f :=
  { wf c hc := by
      rcases List.mem_cons.mp hc with rfl | hc
      · exact ⟨by simp [fresh], fresh_not_full _ _ hi h2⟩
      · exact inv.wf c hc
    common _ := ⟨i, hi, fun c hc => by
      rcases List.mem_cons.mp hc with rfl | hc
      · simp [has_fresh _ _ _ hi]
      · exact hall c hc⟩
    count k hk := by
      simp only [matchCount_snoc, inv.count k hk, List.countP_cons, has_fresh _ _ _ hi, Option.some.injEq]
      by_cases hki : i = k <;> simp [hki, eq_comm] <;> omega }

theorem inv_advanced {s : Sat} {h : List (Option Nat)} {f i : Nat} {c : Chain} {r : List Chain}
    (inv : Inv { s with chains := c :: r } h f) (hci : has c i = false) (hi : i < s.len)
    (hnf : full (c.set i true) = false) :
    Inv { s with chains := c.set i true :: r } (h ++ [some i]) f :=
  { wf d hd := by
      rcases List.mem_cons.mp hd with rfl | hd
      · exact ⟨by rw [List.length_set]; exact (inv.wf c List.mem_cons_self).1, hnf⟩
      · exact inv.wf d (List.mem_cons_of_mem c hd)
    common _ := by
      obtain ⟨i0, hi0, hall⟩ := inv.common (List.cons_ne_nil c r)
      refine ⟨i0, hi0, fun d hd => ?_⟩
      rcases List.mem_cons.mp hd with rfl | hd
      · rw [has_set c i i0 (by rw [(inv.wf c List.mem_cons_self).1]; exact hi), hall c List.mem_cons_self]; rfl
      · exact hall d (List.mem_cons_of_mem c hd)
    count k hk := by
      have hc := inv.count k hk
      simp only [List.countP_cons] at hc
      simp only [matchCount_snoc, hc, List.countP_cons, Option.some.injEq,
        has_set c i k (by rw [(inv.wf c List.mem_cons_self).1]; exact hi)]
      by_cases hki : i = k
      · subst hki; simp [hci]; omega
      · have hki' : ¬ k = i := fun h => hki h.symm
        simp [hki, hki'] }

theorem inv_completed {s : Sat} {h : List (Option Nat)} {f i : Nat} {c : Chain} {r : List Chain}
    (inv : Inv { s with chains := c :: r } h f) (hci : has c i = false) (hi : i < s.len)
    (hf : full (c.set i true) = true) :
    Inv { s with chains := r } (h ++ [some i]) (f + 1) :=
  { wf d hd := inv.wf d (List.mem_cons_of_mem c hd)
    common _ := by
      obtain ⟨i0, hi0, hall⟩ := inv.common (List.cons_ne_nil c r)
      exact ⟨i0, hi0, fun d hd => hall d (List.mem_cons_of_mem c hd)⟩
    count k hk := by
      have hlen := (inv.wf c List.mem_cons_self).1
      have hc := inv.count k hk
      have hk' := (full_iff _).mp hf k (by rw [List.length_set, hlen]; exact hk)
      rw [has_set c i k (by rw [hlen]; exact hi)] at hk'
      simp only [List.countP_cons] at hc
      simp only [matchCount_snoc, hc, Option.some.injEq]
      by_cases hki : i = k
      · subst hki; simp [hci]; omega
      · have hki' : ¬ k = i := fun h => hki h.symm
        have : has c k = true := by simpa [hki'] using hk'
        simp [hki, this]; omega }

theorem satisfy_len (s : Sat) (e : Option Nat) : (satisfy s e).1.len = s.len ∧ (satisfy s e).1.par = s.par := by
  unfold satisfy
  cases e with
  | none => exact ⟨rfl, rfl⟩
  | some i =>
    simp only
    split
    · exact ⟨rfl, rfl⟩
    · split
      · split <;> exact ⟨rfl, rfl⟩
      · exact ⟨rfl, rfl⟩

theorem inv_step (s : Sat) (h : List (Option Nat)) (f : Nat) (e : Option Nat)
    (hpar : s.par = true) (h2 : 2 ≤ s.len) (hv : validEv s.len e) (inv : Inv s h f) :
    Inv (satisfy s e).1 (h ++ [e]) (f + (if (satisfy s e).2.1 then 1 else 0)) := by
  cases e with
  | none =>
    exact ⟨inv.wf, inv.common, fun k hk => by simp [satisfy, matchCount_snoc, inv.count k hk]⟩
  | some i =>
    have hi : i < s.len := hv
    have hne : ¬ (s.len = 1) := by omega
    have hsp := splitFirst_spec (fun c => !has c i) s.chains
    unfold satisfy
    simp only [hpar, hne, Bool.not_true, Bool.false_or, beq_iff_eq, if_false]
    cases hs : splitFirst (fun c => !has c i) s.chains with
    | none =>
      rw [hs] at hsp
      exact inv_of_perm (inv_opened inv (fun c hc => by simpa using hsp c hc) hi h2)
        (List.perm_append_comm (l₂ := [fresh s.len i])) rfl
    | some t =>
      obtain ⟨l1, c, l2⟩ := t
      rw [hs] at hsp
      obtain ⟨hl, hc, _⟩ := hsp
      have hci : has c i = false := by simpa using hc
      -- bring the chain found to the front
      have inv' : Inv { s with chains := c :: (l1 ++ l2) } h f :=
        inv_of_perm inv (by rw [hl]; exact List.perm_middle.symm) rfl
      simp only
      split
      · next hf => exact inv_of_perm (inv_completed inv' hci hi hf) (swapRemove_perm l1 l2) rfl
      · next hf => exact inv_of_perm (inv_advanced inv' hci hi (by simpa using hf)) List.perm_middle rfl

end Bpmn.Model.Satisfier
