import Bpmn.Model.ProcessSet
/-!
Lemmas for C18. `Step` restates `next` as one rule per branch (guards as premises, the successor state spelled out), and a
transition of the executable model is exactly one of these rules (`next_sound`, `next_complete`), so invariants are proved
by `cases` on `Step` (`reach_induction`). What a step does to the list of members is said once (`step_members`): a new
member is appended, or one member is replaced by a successor (`MStep`). Facts about single members then need one case
per `MStep` (`members_induction`); the invariants that tie the members to counters use the frame lemmas of `One` (a list
with at most one entry replaced) for lookups, sums and filters.
-/
namespace Bpmn.Model.ProcessSet

inductive Step (cfg : Cfg) (su : Setup) (s : State) : Choice → State → Prop where
  | saStart (str : List Ev) (rest : List (List Ev)) :
      s.toStart = str :: rest → s.saPending = none →
      Step cfg su s .saStart
        { s with members := s.members ++ [Member.fresh str none cfg.subBeforeStart cfg.addBeforeStart (decide (1 ≤ s.closes))],
                 toStart := rest,
                 wg := s.wg + (if cfg.addBeforeStart then 1 else 0),
                 saPending := if cfg.addBeforeStart then none else some s.members.length }
  | saRegister (i : Nat) :
      s.saPending = some i →
      Step cfg su s .saRegister
        { s with members := regMember s.members i (decide (1 ≤ s.closes)), wg := s.wg + 1, saPending := none }
  | proc (i : Nat) (m : Member) :
      s.members[i]? = some m → m.ceased = false → m.blocked = none →
      Step cfg su s (.proc i) { s with members := s.members.set i m.emit, thrown := s.thrown ++ thrownBy m.nextTr }
  | subscribe (i : Nat) (m : Member) :
      s.members[i]? = some m → m.counted = true → m.subscribed = false →
      Step cfg su s (.subscribe i) { s with members := s.members.set i { m with subscribed := true } }
  | watchTau (i : Nat) (m : Member) (q : List Tr) :
      s.members[i]? = some m → m.counted = true → m.subscribed = true → m.finished = false →
      m.queue = .ev .tau :: q →
      Step cfg su s (.watcher i) { s with members := s.members.set i { m with queue := q } }
  | watchThrow (i : Nat) (m : Member) (id : Nat) (q : List Tr) :
      s.members[i]? = some m → m.counted = true → m.subscribed = true → m.finished = false →
      m.queue = .ev (.throw id) :: q →
      Step cfg su s (.watcher i) { s with members := s.members.set i { m with queue := q }, mch := s.mch ++ [id] }
  | watchListen (i : Nat) (m : Member) (c : Nat) (q : List Tr) :
      s.members[i]? = some m → m.counted = true → m.subscribed = true → m.finished = false →
      m.queue = .ev (.listen c) :: q →
      Step cfg su s (.watcher i)
        { s with members := s.members.set i { m with queue := q },
                 catches := (c, s.wakers.length) :: s.catches.filter (·.1 != c),
                 wakers := s.wakers ++ [{ c := c, member := i }],
                 wg := s.wg + 1 }
  | watchCease (i : Nat) (m : Member) (q : List Tr) :
      s.members[i]? = some m → m.counted = true → m.subscribed = true → m.finished = false →
      m.queue = .cease :: q →
      Step cfg su s (.watcher i)
        { s with members := s.members.set i { m with queue := q, finished := true }, wg := s.wg - 1 }
  | runInst (id : Nat) (rest : List Nat) (str : List Ev) :
      s.runAlive = true → s.runPending = none → s.mch = id :: rest → route su s id = .inst str →
      Step cfg su s .runMsg
        { s with mch := rest, instantiated := s.instantiated ++ [id],
                 members := s.members ++ [Member.fresh str (some id) cfg.instSubBeforeStart cfg.instAddBeforeStart (decide (1 ≤ s.closes))],
                 wg := s.wg + (if cfg.instAddBeforeStart then 1 else 0),
                 runPending := if cfg.instAddBeforeStart then none else some s.members.length }
  | runWake (id : Nat) (rest : List Nat) (c k : Nat) (wk : Waker) :
      s.runAlive = true → s.runPending = none → s.mch = id :: rest → route su s id = .wake c k wk →
      Step cfg su s .runMsg
        { s with mch := rest, woken := s.woken ++ [id],
                 catches := s.catches.filter (·.1 != c),
                 wakers := s.wakers.set k { wk with ready := true } }
  | runDrop (id : Nat) (rest : List Nat) :
      s.runAlive = true → s.runPending = none → s.mch = id :: rest → route su s id = .drop →
      Step cfg su s .runMsg { s with mch := rest, dropped := s.dropped ++ [id] }
  | runRegister (i : Nat) :
      s.runPending = some i →
      Step cfg su s .runRegister
        { s with members := regMember s.members i (decide (1 ≤ s.closes)), wg := s.wg + 1, runPending := none }
  | runDone :
      s.runAlive = true → s.runPending = none → 1 ≤ s.closes →
      Step cfg su s .runDone { s with runAlive := false, ceaseSet := s.ceaseSet + 1 }
  | waker (k : Nat) (wk : Waker) :
      s.wakers[k]? = some wk → wk.ready = true → wk.done = false →
      Step cfg su s (.waker k)
        { s with wakers := s.wakers.set k { wk with done := true }, wg := s.wg - 1,
                 members := unblock s.members wk.member wk.c }
  | waitCall :
      Step cfg su s .waitCall
        { s with waits := s.waits ++ [{}], earlyWait := s.earlyWait || !s.toStart.isEmpty || s.saPending.isSome }
  | closeFirst (w : Nat) (wt : Wait) :
      s.waits[w]? = some wt → wt.closerDone = false → s.wg = 0 → s.closes = 0 →
      Step cfg su s (.closer w)
        { s with waits := s.waits.set w { wt with closerDone := true }, closes := 1, closedInFlight := s.inFlight }
  | closeGuarded (w : Nat) (wt : Wait) :
      s.waits[w]? = some wt → wt.closerDone = false → s.wg = 0 → s.closes ≠ 0 → cfg.closeOnce = true →
      Step cfg su s (.closer w) { s with waits := s.waits.set w { wt with closerDone := true } }
  | closeAgain (w : Nat) (wt : Wait) :
      s.waits[w]? = some wt → wt.closerDone = false → s.wg = 0 → s.closes ≠ 0 → cfg.closeOnce = false →
      Step cfg su s (.closer w) { s with waits := s.waits.set w { wt with closerDone := true }, panicked := true }
  | waitReturn (w : Nat) (wt : Wait) :
      s.waits[w]? = some wt → wt.result = none → 1 ≤ s.closes →
      Step cfg su s (.waitReturn w) { s with waits := s.waits.set w { wt with result := some true } }
  | waitTimeout (w : Nat) (wt : Wait) :
      s.waits[w]? = some wt → wt.result = none →
      Step cfg su s (.waitTimeout w) { s with waits := s.waits.set w { wt with result := some false } }

variable {cfg : Cfg} {su : Setup}

theorem next_sound {s s' : State} {c : Choice} (h : next cfg su s c = some s') :
    s.panicked = false ∧ Step cfg su s c s' := by
  unfold next at h
  cases hp : s.panicked
  case true => rw [if_pos hp] at h; cases h
  rw [if_neg (hp ▸ Bool.false_ne_true)] at h
  refine ⟨rfl, ?_⟩
  -- split `next` along its matches and conditions; each branch that returns a state is the rule with that successor
  cases c <;> dsimp only at h <;> repeat' (first | cases h | split at h)
  all_goals try simp only [Bool.and_eq_true, Bool.or_eq_true, not_or, Bool.not_eq_true, Bool.not_eq_eq_eq_not, Bool.not_true,
    Option.isNone_iff_eq_none, Option.isSome_iff_ne_none, decide_eq_true_eq, beq_iff_eq, ne_eq, Classical.not_not] at *
  all_goals constructor <;> first | assumption | simp only [*]

theorem next_complete {s s' : State} {c : Choice} (h : Step cfg su s c s')
    (hp : s.panicked = false) : next cfg su s c = some s' := by
  cases h <;> simp [next, *]

theorem reach_induction (P : State → Prop) (h0 : P (init su))
    (hs : ∀ s c s', Reach cfg su s → P s → Step cfg su s c s' → P s') :
    ∀ s, Reach cfg su s → P s := by
  intro s h
  induction h with
  | init => exact h0
  | step c hr ih =>
    unfold step
    cases hn : next cfg su _ c with
    | none => exact ih
    | some s' => exact hs _ c s' hr ih (next_sound hn).2

theorem reach_runFrom (sch : List Choice) :
    ∀ s, Reach cfg su s → Reach cfg su (runFrom cfg su s sch) := by
  induction sch with
  | nil => exact fun s h => h
  | cons c cs ih => exact fun s h => ih _ (Reach.step c h)

theorem reach_exec (sch : List Choice) : Reach cfg su (exec cfg su sch) :=
  reach_runFrom sch _ Reach.init

theorem lt_of_getElem? {α : Type} {l : List α} {i : Nat} {a : α} (h : l[i]? = some a) : i < l.length :=
  (List.getElem?_eq_some_iff.1 h).1

theorem mem_of_getElem?' {α : Type} {l : List α} {i : Nat} {a : α} (h : l[i]? = some a) : a ∈ l :=
  List.mem_of_getElem? h

theorem set_split {α : Type} {l : List α} {i : Nat} {a : α} (h : l[i]? = some a) (b : α) :
    ∃ l₁ l₂, l = l₁ ++ a :: l₂ ∧ l.set i b = l₁ ++ b :: l₂ := by
  obtain ⟨hi, rfl⟩ := List.getElem?_eq_some_iff.1 h
  exact ⟨l.take i, l.drop (i + 1), by simp, by simp [List.set_eq_take_append_cons_drop, hi]⟩

theorem getElem?_set_of {α : Type} {l : List α} {i : Nat} {a : α} (h : l[i]? = some a) (b : α) (j : Nat) :
    (l.set i b)[j]? = if j = i then some b else l[j]? := by
  simp [List.getElem?_set, lt_of_getElem? h, eq_comm]

theorem forall_mem_concat {α : Type} {P : α → Prop} {l : List α} {x : α} (hl : ∀ a ∈ l, P a) (hx : P x) :
    ∀ a ∈ l ++ [x], P a := by
  intro a ha
  rcases List.mem_append.1 ha with h | h
  · exact hl a h
  · exact List.mem_singleton.1 h ▸ hx

theorem getElem?_append_one {α : Type} (l : List α) (a : α) (j : Nat) :
    (l ++ [a])[j]? = if j = l.length then some a else l[j]? := by
  rw [List.getElem?_append]; split
  · rw [if_neg (by omega)]
  · split
    · simp [*]
    · rw [List.getElem?_eq_none (by simp; omega), List.getElem?_eq_none (by omega)]

def total {α : Type} (f : α → Nat) : List α → Nat
  | [] => 0
  | a :: l => f a + total f l

theorem total_append {α : Type} (f : α → Nat) (l₁ l₂ : List α) : total f (l₁ ++ l₂) = total f l₁ + total f l₂ := by
  induction l₁ with
  | nil => simp [total]
  | cons a l ih => simp [total, ih, Nat.add_assoc]

theorem total_set {α : Type} (f : α → Nat) {l : List α} {i : Nat} {a : α} (h : l[i]? = some a) (b : α) :
    total f (l.set i b) + f a = total f l + f b := by
  obtain ⟨l₁, l₂, rfl, e⟩ := set_split h b
  rw [e]; simp only [total_append, total]; omega

theorem total_set_same {α : Type} {f : α → Nat} {l : List α} {i : Nat} {a b : α} (h : l[i]? = some a) (hf : f b = f a) :
    total f (l.set i b) = total f l := by
  have := total_set f h b; omega

theorem total_eq_zero_iff {α : Type} (f : α → Nat) (l : List α) : total f l = 0 ↔ ∀ a ∈ l, f a = 0 := by
  induction l with
  | nil => simp [total]
  | cons x l ih => simp [total, ih]

theorem total_pos_of_mem {α : Type} (f : α → Nat) (l : List α) (a : α) (ha : a ∈ l) : f a ≤ total f l := by
  obtain ⟨l₁, l₂, rfl⟩ := List.append_of_mem ha
  simp only [total_append, total]; omega

inductive One {α : Type} (R : α → α → Prop) (l : List α) : List α → Prop where
  | same : One R l l
  | upd {i : Nat} {a b : α} : l[i]? = some a → R a b → One R l (l.set i b)

namespace One
variable {α : Type} {R : α → α → Prop} {l l' : List α}

theorem mono {R' : α → α → Prop} (h : One R l l') (hR : ∀ a b, R a b → R' a b) : One R' l l' := by
  cases h
  · exact .same
  · exact .upd ‹_› (hR _ _ ‹_›)

theorem forall_mem {P : α → Prop} (h : One R l l') (hR : ∀ a b, R a b → P a → P b) (hl : ∀ a ∈ l, P a) :
    ∀ a ∈ l', P a := by
  cases h
  case same => exact hl
  case upd ha hab =>
    intro x hx
    rcases List.mem_or_eq_of_mem_set hx with hx | rfl
    · exact hl x hx
    · exact hR _ _ hab (hl _ (List.mem_of_getElem? ha))

theorem exists_getElem? {P : α → Prop} {j : Nat} (h : One R l l') (hR : ∀ a b, R a b → P a → P b) :
    (∃ a, l[j]? = some a ∧ P a) → ∃ b, l'[j]? = some b ∧ P b := by
  cases h
  case same => exact id
  case upd i a b ha hab =>
    rintro ⟨x, hx, hp⟩
    rw [getElem?_set_of ha]
    split
    · subst j; rw [ha] at hx; cases hx; exact ⟨b, rfl, hR _ _ hab hp⟩
    · exact ⟨x, hx, hp⟩

theorem forall_getElem? {Q : Nat → α → Prop} (h : One R l l') (hR : ∀ j a b, R a b → Q j a → Q j b)
    (hl : ∀ j a, l[j]? = some a → Q j a) : ∀ j b, l'[j]? = some b → Q j b := by
  cases h
  case same => exact hl
  case upd i a b ha hab =>
    intro j x hx
    rw [getElem?_set_of ha] at hx
    split at hx
    · cases hx; subst j; exact hR _ _ _ hab (hl _ _ ha)
    · exact hl j x hx

theorem filter_map {β : Type} (h : One R l l') (p : α → Bool) (g : α → β)
    (hp : ∀ a b, R a b → p b = p a) (hg : ∀ a b, R a b → g b = g a) : (l'.filter p).map g = (l.filter p).map g := by
  cases h
  case same => rfl
  case upd ha hab =>
    obtain ⟨l₁, l₂, rfl, e⟩ := set_split ha _
    rw [e]; simp only [List.filter_append, List.filter_cons, hp _ _ hab, List.map_append]
    split <;> simp [hg _ _ hab]

theorem total_eq (h : One R l l') (f : α → Nat) (hR : ∀ a b, R a b → f b = f a) : total f l' = total f l := by
  cases h
  · rfl
  · exact total_set_same ‹_› (hR _ _ ‹_›)

end One

inductive MStep : Member → Member → Prop where
  | emit {m : Member} : m.ceased = false → m.blocked = none → MStep m m.emit
  | subscribe {m : Member} : m.counted = true → m.subscribed = false → MStep m { m with subscribed := true }
  | pop {m : Member} {t : Tr} {q : List Tr} : m.counted = true → m.subscribed = true → m.finished = false →
      m.queue = t :: q → t ≠ .cease → MStep m { m with queue := q }
  | popCease {m : Member} {q : List Tr} : m.counted = true → m.subscribed = true → m.finished = false →
      m.queue = .cease :: q → MStep m { m with queue := q, finished := true }
  | register {m : Member} (b : Bool) : MStep m { m with counted := true, lateJoin := b }
  | unblock {m : Member} {c : Nat} : m.blocked = some c → MStep m { m with blocked := none }

theorem regMember_step (ms : List Member) (i : Nat) (b : Bool) :
    One (fun m m' => m' = { m with counted := true, lateJoin := b }) ms (regMember ms i b) := by
  unfold regMember; split
  · exact .upd ‹_› rfl
  · exact .same

theorem unblock_step (ms : List Member) (i c : Nat) :
    One (fun m m' => m.blocked = some c ∧ m' = { m with blocked := none }) ms (unblock ms i c) := by
  unfold unblock; split
  · split
    · exact .upd ‹_› ⟨‹_›, rfl⟩
    · exact .same
  · exact .same

inductive MembersStep (cfg : Cfg) (su : Setup) (s s' : State) : Prop where
  | upd : One MStep s.members s'.members → s'.toStart = s.toStart → s'.instantiated = s.instantiated → MembersStep cfg su s s'
  | start (str : List Ev) (rest : List (List Ev)) (reg closed : Bool) : s.toStart = str :: rest → s'.toStart = rest →
      s'.instantiated = s.instantiated → s'.members = s.members ++ [Member.fresh str none cfg.subBeforeStart reg closed] →
      MembersStep cfg su s s'
  | inst (id : Nat) (str : List Ev) (reg closed : Bool) : route su s id = .inst str → s'.toStart = s.toStart →
      s'.instantiated = s.instantiated ++ [id] →
      s'.members = s.members ++ [Member.fresh str (some id) cfg.instSubBeforeStart reg closed] → MembersStep cfg su s s'

theorem step_members {s s' : State} {c : Choice} (h : Step cfg su s c s') :
    MembersStep cfg su s s' := by
  cases h
  case saStart h1 _ => exact .start _ _ _ _ h1 rfl rfl rfl
  case runInst hro => exact .inst _ _ _ _ hro rfl rfl rfl
  case saRegister | runRegister => exact .upd ((regMember_step ..).mono (by rintro _ _ rfl; exact .register _)) rfl rfl
  case waker => exact .upd ((unblock_step ..).mono (by rintro _ _ ⟨h, rfl⟩; exact .unblock h)) rfl rfl
  case proc hm hc hb => exact .upd (.upd hm (.emit hc hb)) rfl rfl
  case subscribe hm hc hs => exact .upd (.upd hm (.subscribe hc hs)) rfl rfl
  case watchTau hm hc hs hf hq | watchThrow hm hc hs hf hq | watchListen hm hc hs hf hq =>
    exact .upd (.upd hm (.pop hc hs hf hq nofun)) rfl rfl
  case watchCease hm hc hs hf hq => exact .upd (.upd hm (.popCease hc hs hf hq)) rfl rfl
  all_goals exact .upd .same rfl rfl

theorem route_inst {su : Setup} {s : State} {id : Nat} {str : List Ev} (h : route su s id = .inst str) :
    ∃ w, su.target id = some (.start w) ∧ su.waitings[w]? = some str := by
  unfold route at h
  repeat' split at h
  all_goals cases h
  exact ⟨_, ‹_›, ‹_›⟩

theorem route_wake {su : Setup} {s : State} {id c k : Nat} {wk : Waker} (h : route su s id = .wake c k wk) :
    s.wakers[k]? = some wk := by
  unfold route at h
  repeat' split at h
  all_goals cases h
  assumption

/-- a member as `StartAll` or `run` creates it -/
inductive New (cfg : Cfg) (su : Setup) : Member → Prop where
  | start (str : List Ev) (reg closed : Bool) : New cfg su (Member.fresh str none cfg.subBeforeStart reg closed)
  | inst (id w : Nat) (str : List Ev) (reg closed : Bool) : su.target id = some (.start w) → su.waitings[w]? = some str →
      New cfg su (Member.fresh str (some id) cfg.instSubBeforeStart reg closed)

theorem members_induction {P : Member → Prop} (hnew : ∀ x, New cfg su x → P x)
    (hstep : ∀ m m', MStep m m' → P m → P m') : ∀ s, Reach cfg su s → ∀ m ∈ s.members, P m := by
  apply reach_induction
  · simp [init]
  · intro s c s' _ ih h
    cases step_members h
    case upd hms _ _ => exact hms.forall_mem hstep ih
    case start e => rw [e]; exact forall_mem_concat ih (hnew _ (.start ..))
    case inst hro _ _ e =>
      obtain ⟨w, h1, h2⟩ := route_inst hro
      rw [e]; exact forall_mem_concat ih (hnew _ (.inst _ w _ _ _ h1 h2))

/-- a watcher finishes (`fin_*`) only on the cease-flow trace, having emptied its channel, and only when registered;
the cease-flow trace is the last thing a process emits (`cease_*`, `ceased_done`) -/
structure MemberOK (m : Member) : Prop where
  fin_ceased : m.finished = true → m.ceased = true
  fin_counted : m.finished = true → m.counted = true
  fin_empty : m.finished = true → m.queue = []
  cease_queue : Tr.cease ∈ m.queue → m.ceased = true
  /-- nothing follows the cease-flow trace in the watcher's channel -/
  cease_last : Tr.cease ∉ m.queue.dropLast
  ceased_done : m.ceased = true → m.todo = [] ∧ m.blocked = none
  /-- the cease-flow trace is in the watcher's hands, unless the watcher was not yet subscribed -/
  tracked : m.ceased = true → Tr.cease ∈ m.missed ∨ Tr.cease ∈ m.queue ∨ m.finished = true

theorem memberOK_step {m m' : Member} (h : MStep m m') (ok : MemberOK m) : MemberOK m' := by
  cases h
  case emit hc hb =>
    have hnf : m.finished = false := by
      cases hf : m.finished
      · rfl
      · rw [ok.fin_ceased hf] at hc; cases hc
    have hnq : Tr.cease ∉ m.queue := fun h => by rw [ok.cease_queue h] at hc; cases hc
    refine ⟨by simp [Member.emit, hnf], by simp [Member.emit, hnf], by simp [Member.emit, hnf], ?_, ?_, ?_, ?_⟩
    · unfold Member.emit; simp only [decide_eq_true_eq]
      split
      · simpa [hnq] using Eq.symm
      · exact fun h => absurd h hnq
    · unfold Member.emit; simp only
      split
      · simpa using hnq
      · exact ok.cease_last
    · unfold Member.emit Member.nextTr; simp only [decide_eq_true_eq]
      split <;> simp [*]
    · unfold Member.emit; simp only [decide_eq_true_eq]
      intro e
      split <;> simp [e]
  case subscribe => exact { ok with }
  case pop t q hc hs hf hq ht =>
    refine { ok with fin_empty := fun h => (by rw [hf] at h; cases h), cease_queue := ?_, cease_last := ?_, tracked := ?_ }
    · exact fun h => ok.cease_queue (by rw [hq]; exact List.mem_cons_of_mem _ h)
    · have := ok.cease_last
      rw [hq] at this
      cases q <;> simp_all
    · intro h
      have := ok.tracked h
      rw [hq] at this
      simpa [Ne.symm ht] using this
  case popCease q hc hs hf hq =>
    have hce : m.ceased = true := ok.cease_queue (by rw [hq]; exact List.mem_cons_self)
    have hq0 : q = [] := by
      have := ok.cease_last
      rw [hq] at this
      cases q <;> simp_all
    exact { ok with fin_ceased := fun _ => hce, fin_counted := fun _ => hc, fin_empty := fun _ => hq0,
                    cease_queue := fun _ => hce, cease_last := by simp [hq0], tracked := fun _ => .inr (.inr rfl) }
  case register => exact { ok with fin_counted := fun _ => rfl }
  case unblock => exact { ok with ceased_done := fun h => ⟨(ok.ceased_done h).1, rfl⟩ }

theorem memberOK_inv : ∀ s, Reach cfg su s → ∀ m ∈ s.members, MemberOK m :=
  members_induction (fun x hx => by cases hx <;> constructor <;> simp [Member.fresh]) (fun _ _ => memberOK_step)

/-- with the subscription established before the start, a watcher misses nothing -/
theorem subscribed_from_start (h1 : cfg.subBeforeStart = true) (h2 : cfg.instSubBeforeStart = true) :
    ∀ s, Reach cfg su s → ∀ m ∈ s.members, m.subscribed = true ∧ m.missed = [] :=
  members_induction (fun x hx => by cases hx <;> simp [Member.fresh, h1, h2])
    (fun m m' h ih => by cases h <;> simp_all [Member.emit])

def trEvs (ts : List Tr) : List Ev := ts.filterMap (fun t => match t with | .ev e => some e | .cease => none)

def Member.whole (m : Member) : List Ev := trEvs m.emitted ++ m.todo

namespace MStep

theorem origin {m m' : Member} (h : MStep m m') : m'.origin = m.origin := by cases h <;> rfl

theorem whole {m m' : Member} (h : MStep m m') : m'.whole = m.whole := by
  cases h
  case emit =>
    unfold Member.whole Member.emit Member.nextTr trEvs
    cases m.todo <;> simp [List.filterMap_append]
  all_goals rfl

end MStep

/-- a member instantiated for throw event `id` runs the stream of the waiting process the message flow of `id` points to -/
theorem instance_streams :
    ∀ s, Reach cfg su s → ∀ m ∈ s.members, ∀ id, m.origin = some id →
      ∃ w, su.target id = some (.start w) ∧ su.waitings[w]? = some m.whole :=
  members_induction
    (fun x hx => by
      cases hx
      case start => simp [Member.fresh]
      case inst id w str _ _ h1 h2 => simpa [Member.fresh, Member.whole, trEvs] using ⟨w, h1, h2⟩)
    (fun m m' h ih => by rw [h.origin, h.whole]; exact ih)

def startedStreams (s : State) : List (List Ev) := (s.members.filter (·.origin.isNone)).map Member.whole

/-- `StartAll` starts the executable processes in order, each with its own stream; whatever a member has emitted
and has still to emit is that stream, whatever the rest of the set does -/
theorem started_streams :
    ∀ s, Reach cfg su s → startedStreams s ++ s.toStart = su.execs := by
  apply reach_induction
  · simp [init, startedStreams]
  · intro s c s' _ ih h
    unfold startedStreams at ih ⊢
    cases step_members h
    case upd hms e _ => rw [e, hms.filter_map _ _ (fun _ _ h => by rw [h.origin]) (fun _ _ => MStep.whole)]; exact ih
    case start h1 e _ em => rw [em, e]; rw [h1] at ih; simpa [List.filter_append, Member.fresh, Member.whole, trEvs] using ih
    case inst e _ em => rw [em, e]; simpa [List.filter_append, Member.fresh] using ih

theorem instances_eq :
    ∀ s, Reach cfg su s → ∀ id, s.instances id = s.instantiated.count id := by
  apply reach_induction
  · simp [init, State.instances]
  · intro s c s' _ ih h id
    have ih := ih id
    unfold State.instances at ih ⊢
    cases step_members h
    case upd hms _ e =>
      have := congrArg List.length (hms.filter_map (·.origin == some id) (fun _ => ()) (fun _ _ h => by rw [h.origin]) (fun _ _ _ => rfl))
      rw [e, ← ih]; simpa using this
    case start e em => rw [em, e]; simpa [List.filter_append, Member.fresh] using ih
    case inst tid _ _ _ _ _ e em =>
      rw [em, e]; simp only [List.filter_append, List.length_append, List.count_append, ih]
      by_cases h : tid = id
      · simp [Member.fresh, h]
      · simp [Member.fresh, h]

theorem guarded_no_panic (hg : cfg.closeOnce = true) : ∀ s, Reach cfg su s → s.panicked = false := by
  apply reach_induction
  · rfl
  · intro s c s' _ ih h
    cases h
    case closeAgain ho => rw [hg] at ho; cases ho
    all_goals exact ih

theorem cease_set_counter :
    ∀ s, Reach cfg su s → s.ceaseSet + (if s.runAlive then 1 else 0) = 1 := by
  apply reach_induction
  · rfl
  · intro s c s' _ ih h
    cases h
    case runDone ha _ _ => rw [ha] at ih; exact ih
    all_goals exact ih

theorem closes_le_one {cfg : Cfg} {su : Setup} : ∀ s, Reach cfg su s → s.closes ≤ 1 := by
  apply reach_induction
  · exact Nat.zero_le 1
  · intro s c s' _ ih h
    cases h
    case closeFirst => exact Nat.le_refl 1
    all_goals exact ih

theorem waits_need_close :
    ∀ s, Reach cfg su s → ∀ wt ∈ s.waits, (wt.result = some true ∨ wt.closerDone = true) → 1 ≤ s.closes := by
  apply reach_induction
  · simp [init]
  · intro s c s' _ ih h
    cases h
    case waitCall => exact forall_mem_concat ih (by simp)
    case closeFirst => exact fun _ _ _ => Nat.le_refl 1
    case closeGuarded hc _ | closeAgain hc _ => exact fun _ _ _ => Nat.pos_of_ne_zero hc
    case waitReturn hc => exact fun _ _ _ => hc
    case waitTimeout w wt0 hw hr =>
      intro wt hwt hc
      rcases List.mem_or_eq_of_mem_set hwt with hm | rfl
      · exact ih wt hm hc
      · exact ih wt0 (List.mem_of_getElem? hw) (.inr (by simpa using hc))
    all_goals exact ih

/-- the index kept in `saPending` / `runPending` names a member not yet registered with the wait group, started by
`StartAll` (`sa`) resp. instantiated by `run` (`run`) -/
structure Pending (s : State) : Prop where
  sa : ∀ i, s.saPending = some i → ∃ m, s.members[i]? = some m ∧ m.counted = false ∧ m.origin = none
  run : ∀ i, s.runPending = some i → ∃ m, s.members[i]? = some m ∧ m.counted = false ∧ m.origin.isSome = true
  /-- a member that is not registered with the wait group is the one `StartAll` or `run` is about to register -/
  unc : ∀ j m, s.members[j]? = some m → m.counted = false → s.saPending = some j ∨ s.runPending = some j

theorem pending_keep {s s' : State} (p : Pending s)
    (h : One (fun m m' => m'.counted = m.counted ∧ m'.origin = m.origin) s.members s'.members)
    (h1 : s'.saPending = s.saPending) (h2 : s'.runPending = s.runPending) : Pending s' := by
  refine ⟨fun i hi => ?_, fun i hi => ?_, ?_⟩
  · exact h.exists_getElem? (fun a b e => by rw [e.1, e.2]; exact id) (p.sa i (h1 ▸ hi))
  · exact h.exists_getElem? (fun a b e => by rw [e.1, e.2]; exact id) (p.run i (h2 ▸ hi))
  · rw [h1, h2]
    exact h.forall_getElem? (fun j a b e => by rw [e.1]; exact id) p.unc

theorem regMember_eq_set {ms : List Member} {i : Nat} {m : Member} (h : ms[i]? = some m) (b : Bool) :
    regMember ms i b = ms.set i { m with counted := true, lateJoin := b } := by
  unfold regMember; rw [h]

theorem getElem?_append_old {α : Type} {l : List α} {j : Nat} {a : α} (h : l[j]? = some a) (b : α) :
    (l ++ [b])[j]? = some a := by
  rw [List.getElem?_append_left (lt_of_getElem? h)]; exact h

theorem pending_inv : ∀ s, Reach cfg su s → Pending s := by
  apply reach_induction
  · exact ⟨nofun, nofun, by simp [init]⟩
  · intro s c s' _ p h
    cases h
    case saStart str rest _ h2 =>
      refine ⟨fun i hi => ?_, fun i hi => ?_, fun j m hj hc => ?_⟩
      · split at hi
        · cases hi
        next hadd => cases hi; exact ⟨_, List.getElem?_concat_length, by simpa [Member.fresh] using hadd, rfl⟩
      · obtain ⟨m, hm, hmo⟩ := p.run i hi
        exact ⟨m, getElem?_append_old hm _, hmo⟩
      · rw [getElem?_append_one] at hj
        split at hj
        · cases hj; subst j; simp only [Member.fresh] at hc; simp [hc]
        · exact .inr ((p.unc j m hj hc).resolve_left (by simp [h2]))
    case runInst id rest str _ h2 _ _ =>
      refine ⟨fun i hi => ?_, fun i hi => ?_, fun j m hj hc => ?_⟩
      · obtain ⟨m, hm, hmo⟩ := p.sa i hi
        exact ⟨m, getElem?_append_old hm _, hmo⟩
      · split at hi
        · cases hi
        next hadd => cases hi; exact ⟨_, List.getElem?_concat_length, by simpa [Member.fresh] using hadd, rfl⟩
      · rw [getElem?_append_one] at hj
        split at hj
        · cases hj; subst j; simp only [Member.fresh] at hc; simp [hc]
        · exact .inl ((p.unc j m hj hc).resolve_right (by simp [h2]))
    case saRegister i h1 =>
      obtain ⟨m0, hm0, _, ho0⟩ := p.sa i h1
      simp only [regMember_eq_set hm0]
      refine ⟨nofun, fun j hj => ?_, fun j m hj hc => ?_⟩
      · obtain ⟨m, hm, hmo⟩ := p.run j hj
        have : i ≠ j := by rintro rfl; rw [hm0] at hm; cases hm; simp [ho0] at hmo
        exact ⟨m, by rw [List.getElem?_set_ne this]; exact hm, hmo⟩
      · rw [getElem?_set_of hm0] at hj
        split at hj
        · cases hj; cases hc
        · exact .inr ((p.unc j m hj hc).resolve_left (by rw [h1]; simpa [eq_comm] using ‹¬ j = i›))
    case runRegister i h1 =>
      obtain ⟨m0, hm0, _, ho0⟩ := p.run i h1
      simp only [regMember_eq_set hm0]
      refine ⟨fun j hj => ?_, nofun, fun j m hj hc => ?_⟩
      · obtain ⟨m, hm, hmo⟩ := p.sa j hj
        have : i ≠ j := by rintro rfl; rw [hm0] at hm; cases hm; simp [hmo.2] at ho0
        exact ⟨m, by rw [List.getElem?_set_ne this]; exact hm, hmo⟩
      · rw [getElem?_set_of hm0] at hj
        split at hj
        · cases hj; cases hc
        · exact .inl ((p.unc j m hj hc).resolve_right (by rw [h1]; simpa [eq_comm] using ‹¬ j = i›))
    case proc hm _ _ | subscribe hm _ _ | watchTau hm _ _ _ _ | watchThrow hm _ _ _ _ | watchListen hm _ _ _ _
        | watchCease hm _ _ _ _ => exact pending_keep p (.upd hm ⟨rfl, rfl⟩) rfl rfl
    case waker => exact pending_keep p ((unblock_step ..).mono (by rintro _ _ ⟨_, rfl⟩; exact ⟨rfl, rfl⟩)) rfl rfl
    all_goals exact pending_keep p .same rfl rfl

def wPending (m : Member) : Nat := if m.counted && !m.finished then 1 else 0
def kPending (wk : Waker) : Nat := if wk.done then 0 else 1

theorem wPending_le_one (m : Member) : wPending m ≤ 1 := by unfold wPending; split <;> omega

theorem wg_inv :
    ∀ s, Reach cfg su s → s.wg = total wPending s.members + total kPending s.wakers := by
  apply reach_induction
  · rfl
  · intro s c s' hr ih h
    -- registration: the member was not counted, and its watcher has not finished
    have reg : ∀ i b, (∃ m, s.members[i]? = some m ∧ m.counted = false) →
        total wPending (regMember s.members i b) = total wPending s.members + 1 := by
      rintro i b ⟨m, hm, hc⟩
      have hf : m.finished = false := by
        cases hf : m.finished
        · rfl
        · rw [(memberOK_inv s hr m (List.mem_of_getElem? hm)).fin_counted hf] at hc; cases hc
      have := total_set wPending hm { m with counted := true, lateJoin := b }
      have h1 : wPending { m with counted := true, lateJoin := b } = 1 := by simp [wPending, hf]
      have h0 : wPending m = 0 := by simp [wPending, hc]
      rw [regMember_eq_set hm]; omega
    cases h
    case saStart =>
      simp only [total_append, total, ih]
      cases cfg.addBeforeStart <;> simp [wPending, Member.fresh] <;> omega
    case runInst =>
      simp only [total_append, total, ih]
      cases cfg.instAddBeforeStart <;> simp [wPending, Member.fresh] <;> omega
    case saRegister i h1 =>
      obtain ⟨m, hm, hc, _⟩ := (pending_inv s hr).sa i h1
      simp only [reg i _ ⟨m, hm, hc⟩, ih]; omega
    case runRegister i h1 =>
      obtain ⟨m, hm, hc, _⟩ := (pending_inv s hr).run i h1
      simp only [reg i _ ⟨m, hm, hc⟩, ih]; omega
    case proc hm _ _ | subscribe hm _ _ | watchTau hm _ _ _ _ | watchThrow hm _ _ _ _ =>
      rw [total_set_same hm (by rfl)]; exact ih
    case watchListen hm _ _ _ _ =>
      rw [total_set_same hm (by rfl), total_append]
      simp [total, kPending, ih]; omega
    case watchCease i m q hm hc _ hf _ =>
      have := total_set wPending hm { m with queue := q, finished := true }
      have h1 : wPending { m with queue := q, finished := true } = 0 := by simp [wPending]
      have h0 : wPending m = 1 := by simp [wPending, hc, hf]
      simp only [ih]; omega
    case runWake hro => rw [total_set_same (route_wake hro) (by rfl)]; exact ih
    case waker k wk hk _ hd =>
      have := total_set kPending hk { wk with done := true }
      have h1 : kPending { wk with done := true } = 0 := rfl
      have h0 : kPending wk = 1 := by simp [kPending, hd]
      have e := (unblock_step s.members wk.member wk.c).total_eq wPending (by rintro _ _ ⟨_, rfl⟩; rfl)
      simp only [e, ih]; omega
    all_goals exact ih

theorem closed_members_finished :
    ∀ s, Reach cfg su s → 1 ≤ s.closes → ∀ m ∈ s.members, m.counted = true → m.lateJoin = false → m.finished = true := by
  apply reach_induction
  · simp [init]
  · intro s c s' hr ih h
    have keep : ∀ ms', One (fun m m' => m'.counted = m.counted ∧ m'.lateJoin = m.lateJoin ∧
        (m.finished = true → m'.finished = true)) s.members ms' → 1 ≤ s.closes →
        ∀ m ∈ ms', m.counted = true → m.lateJoin = false → m.finished = true :=
      fun ms' h hc => h.forall_mem (fun a b ⟨e1, e2, e3⟩ ha hcb hlb => e3 (ha (e1 ▸ hcb) (e2 ▸ hlb))) (ih hc)
    -- a member registered now joins late
    have reg : ∀ i, 1 ≤ s.closes → ∀ m ∈ regMember s.members i (decide (1 ≤ s.closes)),
        m.counted = true → m.lateJoin = false → m.finished = true :=
      fun i hc => (regMember_step ..).forall_mem (by rintro a _ rfl _ _ hl; simp [hc] at hl) (ih hc)
    have new : ∀ str o sub reg, 1 ≤ s.closes → ∀ m ∈ s.members ++ [Member.fresh str o sub reg (decide (1 ≤ s.closes))],
        m.counted = true → m.lateJoin = false → m.finished = true :=
      fun str o sub reg hc => forall_mem_concat (ih hc) (by simp [Member.fresh, hc])
    cases h
    case saStart | runInst => exact new _ _ _ _
    case saRegister | runRegister => exact reg _
    case proc hm _ _ | subscribe hm _ _ | watchTau hm _ _ _ _ | watchThrow hm _ _ _ _ | watchListen hm _ _ _ _ =>
      exact keep _ (.upd hm ⟨rfl, rfl, id⟩)
    case watchCease hm _ _ _ _ => exact keep _ (.upd hm ⟨rfl, rfl, fun _ => rfl⟩)
    case waker => exact keep _ ((unblock_step ..).mono (by rintro _ _ ⟨_, rfl⟩; exact ⟨rfl, rfl, id⟩))
    case closeFirst hwg _ =>
      intro _ m hm hcnt _
      have := (total_eq_zero_iff wPending s.members).1 (by have := wg_inv s hr; omega) m hm
      simpa [wPending, hcnt] using this
    all_goals exact ih

/-- throws of `id` that the member has emitted and its watcher has not passed on: still in the watcher's channel, or
lost to a watcher that had not subscribed -/
def heldThrows (id : Nat) (m : Member) : Nat := (m.queue ++ m.missed).count (.ev (.throw id))

theorem count_thrownBy (id : Nat) (t : Tr) : (thrownBy t).count id = [t].count (.ev (.throw id)) := by
  cases t with
  | cease => rfl
  | ev e =>
    cases e with
    | throw id' => by_cases h : id' = id <;> simp [thrownBy, h]
    | _ => rfl

theorem held_emit (id : Nat) (m : Member) :
    heldThrows id m.emit = heldThrows id m + (thrownBy m.nextTr).count id := by
  unfold heldThrows Member.emit
  cases m.subscribed <;> simp [count_thrownBy, List.count_cons, List.count_append] <;> omega

theorem held_pop (id : Nat) {m : Member} {t : Tr} {q : List Tr} (f : Bool) (h : m.queue = t :: q) :
    heldThrows id m = heldThrows id { m with queue := q, finished := f } + (thrownBy t).count id := by
  unfold heldThrows
  rw [h, count_thrownBy]; simp [List.count_cons]

/-- Every throw event a member has emitted is in exactly one place: turned into an instantiation, turned into a wake-up,
handled without effect, waiting in `mch`, or held (`heldThrows`). -/
theorem msg_account : ∀ s, Reach cfg su s → ∀ id,
    s.instantiated.count id + s.woken.count id + s.dropped.count id + s.mch.count id + total (heldThrows id) s.members
      = s.thrown.count id := by
  apply reach_induction
  · intro id; rfl
  · intro s c s' _ ih h id
    have ih := ih id
    -- the watcher takes a trace from its channel
    have pop : ∀ {i : Nat} {m : Member} {t : Tr} {q : List Tr} (f : Bool), s.members[i]? = some m → m.queue = t :: q →
        total (heldThrows id) (s.members.set i { m with queue := q, finished := f }) + (thrownBy t).count id
          = total (heldThrows id) s.members := by
      intro i m t q f hm hq
      have := total_set (heldThrows id) hm { m with queue := q, finished := f }
      have := held_pop id f hq
      omega
    cases h
    case saStart => simpa [total_append, total, heldThrows, Member.fresh] using ih
    case runInst hm _ =>
      rw [hm] at ih
      simp only [total_append, total, List.count_append, List.count_cons, List.count_nil] at ih ⊢
      simp only [heldThrows, Member.fresh, List.append_nil, List.count_nil]; omega
    case runWake hm _ | runDrop hm _ =>
      rw [hm] at ih
      simp only [List.count_append, List.count_cons, List.count_nil] at ih ⊢; omega
    case saRegister | runRegister => rw [← ih, (regMember_step ..).total_eq _ (by rintro _ _ rfl; rfl)]
    case waker => rw [← ih, (unblock_step ..).total_eq _ (by rintro _ _ ⟨_, rfl⟩; rfl)]
    case subscribe hm _ _ => rw [← ih, total_set_same hm (by rfl)]
    case proc i m hm _ _ =>
      have := total_set (heldThrows id) hm m.emit
      have := held_emit id m
      simp only [List.count_append]; omega
    case watchTau i m q hm _ _ _ hq | watchListen i m c q hm _ _ _ hq =>
      have := pop m.finished hm hq; simp only [thrownBy, List.count_nil] at this; dsimp only; omega
    case watchCease hm _ _ _ hq => have := pop true hm hq; simp only [thrownBy, List.count_nil] at this; dsimp only; omega
    case watchThrow i m tid q hm _ _ _ hq =>
      have := pop m.finished hm hq
      simp only [thrownBy] at this; simp only [List.count_append]; omega
    all_goals exact ih

structure Early (s : State) : Prop where
  through : s.earlyWait = false → s.waits ≠ [] → s.toStart = [] ∧ s.saPending = none
  /-- `done` is closed by the goroutine of some call -/
  called : 1 ≤ s.closes → s.waits ≠ []
  late : ∀ m ∈ s.members, m.lateJoin = true → m.origin.isSome = true ∨ s.earlyWait = true

theorem early_inv : ∀ s, Reach cfg su s → Early s := by
  apply reach_induction
  · constructor <;> simp [init]
  · intro s c s' hr ih h
    obtain ⟨e1, e2, lj⟩ := ih
    have keep : ∀ ms', One (fun m m' => m'.origin = m.origin ∧ m'.lateJoin = m.lateJoin) s.members ms' →
        ∀ m ∈ ms', m.lateJoin = true → m.origin.isSome = true ∨ s.earlyWait = true :=
      fun ms' h => h.forall_mem (fun a b ⟨ha, hb⟩ => by rw [ha, hb]; exact id) lj
    -- `StartAll` is not through: whoever is registered after the close joins after an early call
    have late : (s.toStart ≠ [] ∨ s.saPending ≠ none) → 1 ≤ s.closes → s.earlyWait = true := by
      intro hns hc
      cases he : s.earlyWait
      · obtain ⟨h1, h2⟩ := e1 he (e2 hc)
        exact absurd hns (by simp [h1, h2])
      · rfl
    cases h
    case saStart str rest h1 _ =>
      refine ⟨fun he hw => ?_, e2, ?_⟩
      · rw [(e1 he hw).1] at h1; cases h1
      · exact forall_mem_concat lj fun hl =>
          .inr (late (.inl (by simp [h1])) (by simp [Member.fresh] at hl; exact hl.2))
    case saRegister i h1 =>
      refine ⟨fun he hw => ?_, e2, ?_⟩
      · rw [(e1 he hw).2] at h1; cases h1
      · exact (regMember_step ..).forall_mem (by
          rintro a _ rfl ha hl
          exact .inr (late (.inr (by simp [h1])) (by simpa using hl))) lj
    case runInst => exact ⟨e1, e2, forall_mem_concat lj fun _ => .inl rfl⟩
    case runRegister i h1 =>
      obtain ⟨m0, hm0, _, ho⟩ := (pending_inv s hr).run i h1
      refine ⟨e1, e2, ?_⟩
      rw [regMember_eq_set hm0]
      exact (One.upd (R := fun _ b => b.origin.isSome = true) hm0 ho).forall_mem (fun _ _ h _ _ => .inl h) lj
    case proc hm _ _ | subscribe hm _ _ | watchTau hm _ _ _ _ | watchThrow hm _ _ _ _ | watchListen hm _ _ _ _
        | watchCease hm _ _ _ _ => exact ⟨e1, e2, keep _ (.upd hm ⟨rfl, rfl⟩)⟩
    case waker => exact ⟨e1, e2, keep _ ((unblock_step ..).mono (by rintro _ _ ⟨_, rfl⟩; exact ⟨rfl, rfl⟩))⟩
    case waitCall =>
      refine ⟨fun he _ => ?_, fun _ => by simp, fun m hm hl => ?_⟩
      · simp at he; exact ⟨he.1.2, he.2⟩
      · exact (lj m hm hl).imp_right (by simp +contextual)
    case closeFirst hw _ _ _ =>
      have hne : s.waits ≠ [] := by rintro h; rw [h] at hw; cases hw
      exact ⟨by simpa only [ne_eq, List.set_eq_nil_iff] using e1, fun _ => by simpa using hne, lj⟩
    case closeGuarded | closeAgain | waitReturn | waitTimeout =>
      exact ⟨by simpa only [ne_eq, List.set_eq_nil_iff] using e1, by simpa only [ne_eq, List.set_eq_nil_iff] using e2, lj⟩
    all_goals exact ⟨e1, e2, lj⟩

def isListen : Tr → Bool
  | .ev (.listen _) => true
  | _ => false

def wakes (i : Nat) (wk : Waker) : Nat := if wk.member = i ∧ wk.done = false then 1 else 0

theorem unblock_eq_set {ms : List Member} {i c : Nat} {m : Member} (hm : ms[i]? = some m) (hb : m.blocked = some c) :
    unblock ms i c = ms.set i { m with blocked := none } := by
  unfold unblock; rw [hm]; simp [hb]

/-- Per member, the listening traces still in its watcher's channel and the pending wake-up goroutines for it are together
at most one, and none unless its process waits at a catch event: that of the trace, that of the goroutine. -/
structure WakerInv (ms : List Member) (wks : List Waker) : Prop where
  perMember : ∀ i m, ms[i]? = some m →
    (m.queue.filter isListen).length + total (wakes i) wks ≤ (if m.blocked.isSome then 1 else 0) ∧
    ∀ c, Tr.ev (.listen c) ∈ m.queue → m.blocked = some c
  perWaker : ∀ wk ∈ wks, wk.done = false → ∃ m, ms[wk.member]? = some m ∧ m.blocked = some wk.c

theorem listen_filter_pos {q : List Tr} {c : Nat} (h : Tr.ev (.listen c) ∈ q) : 0 < (q.filter isListen).length :=
  List.length_pos_of_mem (List.mem_filter.2 ⟨h, rfl⟩)

namespace WakerInv
variable {ms : List Member} {wks : List Waker} (inv : WakerInv ms wks)
include inv

theorem keep {ms' : List Member}
    (h : One (fun m m' => m'.blocked = m.blocked ∧ m'.queue <:+ m.queue) ms ms') : WakerInv ms' wks := by
  refine ⟨h.forall_getElem? ?_ inv.perMember, fun wk hwk hd => h.exists_getElem? ?_ (inv.perWaker wk hwk hd)⟩
  · rintro j a b ⟨hb, hq⟩ ⟨h1, h2⟩
    rw [hb]
    exact ⟨Nat.le_trans (Nat.add_le_add_right (hq.filter isListen).length_le _) h1, fun c hc => h2 c (hq.mem hc)⟩
  · rintro a b ⟨hb, _⟩ ha
    rw [hb]; exact ha

theorem push {x : Member} (hx : x.queue = []) :
    WakerInv (ms ++ [x]) wks := by
  refine ⟨fun j m hj => ?_, fun wk hwk hd => ?_⟩
  · rw [getElem?_append_one] at hj
    split at hj
    · cases hj; subst j
      have : total (wakes ms.length) wks = 0 := by
        rw [total_eq_zero_iff]
        intro wk hwk
        unfold wakes; split
        next h =>
          obtain ⟨m, hm, _⟩ := inv.perWaker wk hwk h.2
          exact absurd (lt_of_getElem? hm) (by omega)
        · rfl
      simp [hx, this]
    · exact inv.perMember j m hj
  · obtain ⟨m, hm, hb⟩ := inv.perWaker wk hwk hd
    exact ⟨m, getElem?_append_old hm _, hb⟩

theorem ready {k : Nat} {wk : Waker}
    (hk : wks[k]? = some wk) : WakerInv ms (wks.set k { wk with ready := true }) := by
  refine ⟨fun j m hj => ?_, fun x hx hd => ?_⟩
  · rw [total_set_same hk (by rfl)]; exact inv.perMember j m hj
  · rcases List.mem_or_eq_of_mem_set hx with hx | rfl
    · exact inv.perWaker x hx hd
    · exact inv.perWaker wk (List.mem_of_getElem? hk) hd

/-- a process that is not waiting at a catch event has no listening trace in its channel and no pending wake-up
goroutine -/
theorem emit {i : Nat} {m : Member}
    (hm : ms[i]? = some m) (hb : m.blocked = none) : WakerInv (ms.set i m.emit) wks := by
  obtain ⟨hf0, ht0⟩ : (m.queue.filter isListen).length = 0 ∧ total (wakes i) wks = 0 := by
    have := (inv.perMember i m hm).1
    simp only [hb, Option.isSome_none, Bool.false_eq_true, if_false] at this; omega
  have hw0 : ∀ wk ∈ wks, wk.done = false → wk.member ≠ i := by
    intro wk hwk hd hmem
    have := (total_eq_zero_iff (wakes i) wks).1 ht0 wk hwk
    simp [wakes, hmem, hd] at this
  have hq : m.emit.queue = m.queue ∨ m.emit.queue = m.queue ++ [m.nextTr] := by
    unfold Member.emit; split <;> simp
  have hbl : m.emit.blocked = match m.nextTr with | .ev (.listen c) => some c | _ => none := rfl
  refine ⟨fun j x hj => ?_, fun wk hwk hd => ?_⟩
  · rw [getElem?_set_of hm] at hj
    split at hj
    · cases hj; subst j
      constructor
      · rcases hq with hq | hq <;> rw [hq, hbl, ht0]
        · omega
        · rw [List.filter_append, List.length_append, hf0]
          cases m.nextTr with
          | cease => simp [isListen]
          | ev e => cases e <;> simp [List.filter_cons, isListen]
      · intro c hc
        rcases hq with hq | hq <;> rw [hq] at hc
        · have := listen_filter_pos hc; omega
        · rcases List.mem_append.1 hc with hc | hc
          · have := listen_filter_pos hc; omega
          · rw [hbl, ← List.mem_singleton.1 hc]
    · exact inv.perMember j x hj
  · obtain ⟨x, hx, hxb⟩ := inv.perWaker wk hwk hd
    exact ⟨x, by rw [List.getElem?_set_ne (Ne.symm (hw0 wk hwk hd))]; exact hx, hxb⟩

theorem listen {i c : Nat} {m : Member} {q : List Tr}
    (hm : ms[i]? = some m) (hq : m.queue = .ev (.listen c) :: q) :
    WakerInv (ms.set i { m with queue := q }) (wks ++ [{ c := c, member := i }]) := by
  obtain ⟨h0, hl⟩ := inv.perMember i m hm
  have hblk : m.blocked = some c := hl c (by rw [hq]; exact List.mem_cons_self)
  rw [hq, hblk] at h0
  simp only [List.filter_cons, isListen, if_true, List.length_cons, Option.isSome_some] at h0
  refine ⟨fun j x hj => ?_, fun wk hwk hd => ?_⟩
  · rw [total_append]
    rw [getElem?_set_of hm] at hj
    split at hj
    · cases hj; subst j
      exact ⟨by simp [total, wakes, hblk]; omega, fun c' hc' => hl c' (by rw [hq]; exact List.mem_cons_of_mem _ hc')⟩
    next hji =>
      have : total (wakes j) [({ c := c, member := i } : Waker)] = 0 := by simp [total, wakes, Ne.symm hji]
      rw [this]; exact inv.perMember j x hj
  · rcases List.mem_append.1 hwk with hwk | hwk
    · exact (One.upd (R := fun a b => b.blocked = a.blocked) hm rfl).exists_getElem?
        (fun a b e h => by rw [e]; exact h) (inv.perWaker wk hwk hd)
    · rw [List.mem_singleton.1 hwk]
      exact ⟨{ m with queue := q }, by rw [getElem?_set_of hm, if_pos rfl], hblk⟩

/-- a wake-up goroutine fires: it was the only one for its member, whose channel holds no listening trace -/
theorem fire {k : Nat} {wk : Waker}
    (hk : wks[k]? = some wk) (hd : wk.done = false) :
    WakerInv (unblock ms wk.member wk.c) (wks.set k { wk with done := true }) := by
  obtain ⟨m0, hm0, hb0⟩ := inv.perWaker wk (List.mem_of_getElem? hk) hd
  rw [unblock_eq_set hm0 hb0]
  -- the firing goroutine no longer counts
  have tot : ∀ j, total (wakes j) (wks.set k { wk with done := true }) + (if wk.member = j then 1 else 0)
      = total (wakes j) wks := by
    intro j
    have := total_set (wakes j) hk { wk with done := true }
    simpa [wakes, hd] using this
  have h0 := (inv.perMember _ m0 hm0).1
  have t0 := tot wk.member
  simp only [hb0, Option.isSome_some, if_true] at h0 t0
  refine ⟨fun j x hj => ?_, fun x hx hdx => ?_⟩
  · rw [getElem?_set_of hm0] at hj
    split at hj
    · cases hj; subst j
      refine ⟨?_, fun c hc => ?_⟩
      · show (m0.queue.filter isListen).length + _ ≤ 0
        omega
      · have : 0 < (m0.queue.filter isListen).length := listen_filter_pos hc
        omega
    next hji =>
      have := tot j
      rw [if_neg (Ne.symm hji), Nat.add_zero] at this
      rw [this]; exact inv.perMember j x hj
  · have hxm : x.member ≠ wk.member := by
      intro e
      have := (total_eq_zero_iff (wakes wk.member) _).1 (by omega) x hx
      simp [wakes, e, hdx] at this
    rcases List.mem_or_eq_of_mem_set hx with hx | rfl
    · obtain ⟨y, hy, hyb⟩ := inv.perWaker x hx hdx
      exact ⟨y, by rw [List.getElem?_set_ne (Ne.symm hxm)]; exact hy, hyb⟩
    · cases hdx

end WakerInv

theorem wakerInv_inv : ∀ s, Reach cfg su s → WakerInv s.members s.wakers := by
  apply reach_induction
  · exact ⟨by simp [init], by simp [init]⟩
  · intro s c s' _ inv h
    cases h
    case saStart | runInst => exact inv.push rfl
    case saRegister | runRegister =>
      exact inv.keep ((regMember_step ..).mono (by rintro _ _ rfl; exact ⟨rfl, List.suffix_rfl⟩))
    case subscribe hm _ _ => exact inv.keep (.upd hm ⟨rfl, List.suffix_rfl⟩)
    case watchTau hm _ _ _ hq | watchThrow hm _ _ _ hq | watchCease hm _ _ _ hq =>
      exact inv.keep (.upd hm ⟨rfl, hq ▸ List.suffix_cons _ _⟩)
    case runWake hro => exact inv.ready (route_wake hro)
    case proc hm _ hb => exact inv.emit hm hb
    case watchListen hm _ _ _ hq => exact inv.listen hm hq
    case waker hk _ hd => exact inv.fire hk hd
    all_goals exact inv

theorem wakers_done_of_all_ceased (s : State) (hr : Reach cfg su s)
    (hall : ∀ m ∈ s.members, m.ceased = true) : ∀ wk ∈ s.wakers, wk.done = true := by
  intro wk hwk
  cases hd : wk.done
  · obtain ⟨m, hm, hb⟩ := (wakerInv_inv s hr).perWaker wk hwk hd
    have hmem := List.mem_of_getElem? hm
    rw [((memberOK_inv s hr m hmem).ceased_done (hall m hmem)).2] at hb; cases hb
  · rfl

theorem enabled_of_step {s s' : State} {c : Choice} (hp : s.panicked = false)
    (h : Step cfg su s c s') : enabled cfg su s c = true := by
  unfold enabled; rw [next_complete h hp]; rfl

structure Quiet (s : State) : Prop where
  sa : s.saPending = none
  run : s.runPending = none
  mch : s.runAlive = true → s.mch = []
  queue : ∀ (i : Nat) (m : Member), s.members[i]? = some m → m.counted = true → m.subscribed = true → m.finished = false → m.queue = []
  open_ : s.runAlive = true → s.closes = 0
  closer : s.wg = 0 → ∀ (w : Nat) (wt : Wait), s.waits[w]? = some wt → wt.closerDone = true
  ret : 1 ≤ s.closes → ∀ (w : Nat) (wt : Wait), s.waits[w]? = some wt → wt.result ≠ none

theorem quiet_of_quiescent {s : State} (hq : Quiescent cfg su s) (hp : s.panicked = false) :
    Quiet s := by
  -- a step of a goroutine of the set contradicts quiescence
  have no : ∀ {c s'}, Step cfg su s c s' → c.isEnv = false → False :=
    fun h hc => by rw [hq _ (enabled_of_step hp h)] at hc; cases hc
  have sa : s.saPending = none := by
    cases h : s.saPending
    · rfl
    · exact (no (.saRegister _ h) rfl).elim
  have run : s.runPending = none := by
    cases h : s.runPending
    · rfl
    · exact (no (.runRegister _ h) rfl).elim
  refine ⟨sa, run, fun ha => ?_, fun i m hm hc hs hf => ?_, fun ha => ?_, fun hwg w wt hw => ?_, fun hc w wt hw hr => ?_⟩
  · cases h : s.mch with
    | nil => rfl
    | cons id rest =>
      cases hro : route su s id
      · exact (no (.runInst id rest _ ha run h hro) rfl).elim
      · exact (no (.runWake id rest _ _ _ ha run h hro) rfl).elim
      · exact (no (.runDrop id rest ha run h hro) rfl).elim
  · cases h : m.queue with
    | nil => rfl
    | cons t q =>
      cases t with
      | cease => exact (no (.watchCease i m q hm hc hs hf h) rfl).elim
      | ev e =>
        cases e
        · exact (no (.watchTau i m q hm hc hs hf h) rfl).elim
        · exact (no (.watchThrow i m _ q hm hc hs hf h) rfl).elim
        · exact (no (.watchListen i m _ q hm hc hs hf h) rfl).elim
  · cases h : s.closes
    · rfl
    · exact (no (.runDone ha run (by omega)) rfl).elim
  · cases hd : wt.closerDone
    · by_cases h0 : s.closes = 0
      · exact (no (.closeFirst w wt hw hd hwg h0) rfl).elim
      · cases ho : cfg.closeOnce
        · exact (no (.closeAgain w wt hw hd hwg h0 ho) rfl).elim
        · exact (no (.closeGuarded w wt hw hd hwg h0 ho) rfl).elim
    · rfl
  · exact no (.waitReturn w wt hw hr hc) rfl

/-- when nothing can move every member is registered with the wait group, so its watcher has emptied its channel -/
theorem queue_empty_of_quiet {s : State} (hr : Reach cfg su s) (qt : Quiet s) {m : Member} (hm : m ∈ s.members)
    (hs : m.subscribed = true) : m.queue = [] := by
  obtain ⟨j, hj⟩ := List.mem_iff_getElem?.mp hm
  have hc : m.counted = true := by
    cases hc : m.counted
    · simpa [qt.sa, qt.run] using (pending_inv s hr).unc j m hj hc
    · rfl
  cases hf : m.finished
  · exact qt.queue j m hj hc hs hf
  · exact (memberOK_inv s hr m hm).fin_empty hf

theorem regMember_length (ms : List Member) (i : Nat) (b : Bool) : (regMember ms i b).length = ms.length := by
  unfold regMember; split <;> simp

theorem unblock_length (ms : List Member) (i c : Nat) : (unblock ms i c).length = ms.length := by
  unfold unblock; repeat' split
  all_goals simp

/-- out-of-range indices are never enabled, so quiescence can be computed -/
theorem quiescent_of_check {s : State} (h : quiescentB cfg su s = true) : Quiescent cfg su s := by
  intro c hc
  cases hn : next cfg su s c with
  | none => simp [enabled, hn] at hc
  | some s' =>
    have hs := (next_sound hn).2
    -- the index of an enabled choice points at a member, a wake-up goroutine, a call
    have : c.isEnv = true ∨ c ∈ internalChoices s := by
      simp only [internalChoices, List.mem_append, List.mem_flatMap, List.mem_map, List.mem_range]
      cases c with
      | waitCall | waitTimeout => exact .inl rfl
      | proc i => cases hs; exact .inr (.inl (.inl (.inr ⟨i, lt_of_getElem? ‹_›, .head _⟩)))
      | subscribe i => cases hs; exact .inr (.inl (.inl (.inr ⟨i, lt_of_getElem? ‹_›, .tail _ (.head _)⟩)))
      | watcher i => cases hs <;> exact .inr (.inl (.inl (.inr ⟨i, lt_of_getElem? ‹_›, .tail _ (.tail _ (.head _))⟩)))
      | waker k => cases hs; exact .inr (.inl (.inr ⟨k, lt_of_getElem? ‹_›, rfl⟩))
      | closer w => cases hs <;> exact .inr (.inr ⟨w, lt_of_getElem? ‹_›, .head _⟩)
      | waitReturn w => cases hs; exact .inr (.inr ⟨w, lt_of_getElem? ‹_›, .tail _ (.head _)⟩)
      | _ => exact .inr (.inl (.inl (.inl (by simp))))
    rcases this with h1 | h1
    · exact h1
    · have := List.all_eq_true.1 h c h1
      simp [hc] at this

/-! What follows serves the witnesses of `Props/C18`, which are computed at a closed `Cfg`: a transition consults only
the facts of its own choice, and enabledness none. -/

def isCloser : Choice → Bool
  | .closer _ => true
  | _ => false

/-- The facts a transition consults: those of `StartAll` (here taken to agree), those of `run` when it takes a message,
the guard of the close when a closer runs. -/
theorem next_cfg {cfg cfg' : Cfg} (su : Setup) (s : State) (c : Choice)
    (h1 : cfg.subBeforeStart = cfg'.subBeforeStart ∧ cfg.addBeforeStart = cfg'.addBeforeStart)
    (h2 : c = .runMsg → cfg.instSubBeforeStart = cfg'.instSubBeforeStart ∧ cfg.instAddBeforeStart = cfg'.instAddBeforeStart)
    (h3 : isCloser c = true → cfg.closeOnce = cfg'.closeOnce) : next cfg su s c = next cfg' su s c := by
  obtain ⟨a, b, o, d, e⟩ := cfg
  obtain ⟨a', b', o', d', e'⟩ := cfg'
  obtain ⟨rfl, rfl⟩ := h1
  cases c
  case runMsg => obtain ⟨rfl, rfl⟩ := h2 rfl; rfl
  case closer w => cases h3 rfl; rfl
  all_goals rfl

theorem exec_cfg {cfg cfg' : Cfg} (su : Setup) (sch : List Choice)
    (h1 : cfg.subBeforeStart = cfg'.subBeforeStart ∧ cfg.addBeforeStart = cfg'.addBeforeStart)
    (h2 : .runMsg ∉ sch ∨ cfg.instSubBeforeStart = cfg'.instSubBeforeStart ∧ cfg.instAddBeforeStart = cfg'.instAddBeforeStart)
    (h3 : sch.any isCloser = false ∨ cfg.closeOnce = cfg'.closeOnce) : exec cfg su sch = exec cfg' su sch := by
  unfold exec
  generalize init su = s
  induction sch generalizing s with
  | nil => rfl
  | cons c cs ih =>
    have e : step cfg su s c = step cfg' su s c := by
      unfold step
      rw [next_cfg su s c h1 (fun e => h2.resolve_left (fun h => h (e ▸ List.mem_cons_self)))
        (fun e => h3.resolve_left (by simp [e]))]
    show runFrom cfg su (step cfg su s c) cs = runFrom cfg' su (step cfg' su s c) cs
    rw [e]
    exact ih (h2.imp_left (fun h h' => h (List.mem_cons_of_mem _ h'))) (h3.imp_left (by simp +contextual)) _

theorem enabled_cfg {cfg : Cfg} (cfg' : Cfg) {s : State} {c : Choice} (h : enabled cfg su s c = true) :
    enabled cfg' su s c = true := by
  cases hn : next cfg su s c with
  | none => simp [enabled, hn] at h
  | some s' =>
    obtain ⟨hp, hs⟩ := next_sound hn
    cases c
    case saStart => cases hs; exact enabled_of_step hp (.saStart _ _ ‹_› ‹_›)
    case runMsg =>
      cases hs
      · exact enabled_of_step hp (.runInst _ _ _ ‹_› ‹_› ‹_› ‹_›)
      · exact enabled_of_step hp (.runWake _ _ _ _ _ ‹_› ‹_› ‹_› ‹_›)
      · exact enabled_of_step hp (.runDrop _ _ ‹_› ‹_› ‹_› ‹_›)
    case closer w =>
      have : ∀ wt, s.waits[w]? = some wt → wt.closerDone = false → s.wg = 0 → enabled cfg' su s (.closer w) = true := by
        intro wt h1 h2 h3
        by_cases h0 : s.closes = 0
        · exact enabled_of_step hp (.closeFirst w wt h1 h2 h3 h0)
        · cases ho : cfg'.closeOnce
          · exact enabled_of_step hp (.closeAgain w wt h1 h2 h3 h0 ho)
          · exact enabled_of_step hp (.closeGuarded w wt h1 h2 h3 h0 ho)
      cases hs <;> exact this _ ‹_› ‹_› ‹_›
    all_goals exact h

theorem quiescent_cfg {cfg : Cfg} (cfg' : Cfg) {s : State} (h : Quiescent cfg' su s) : Quiescent cfg su s :=
  fun c hc => h c (enabled_cfg cfg' hc)

end Bpmn.Model.ProcessSet
