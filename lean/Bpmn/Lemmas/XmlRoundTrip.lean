import Bpmn.Lemmas.Xml
/-!
Tree-level round trip of the generic XML codec: for EVERY schema table `S` that passes the
decidable table check `rtTableB`, every trimming function and every well-typed tree of any size
and depth, `parse S (marshal S tr n) = some (normRoot S tr n)`.

The proof is a mutual structural induction over `Node` / `List (List Node)` / `List Node`
following `marshalNode` / `marshalFields` / `marshalKids`.
-/
namespace Bpmn.Model.Xml

/-! ## The table check the theorem needs (decidable; evaluated by the kernel on the extracted table)

`rtTableB` is the only hypothesis of `roundtrip` on the table. The checks of `Model/Xml` (`wfB`, `prefixesDeclaredB`,
`xsiDeclaredB`) are separate table-level conditions, evaluated in `Props/C15Current` and in the witnesses of `Props/C15`. -/

/-- the element written for a child of field `f` either carries a non-empty prefix that the ROOT
declares and binds to the namespace of the field's tag, or is un-prefixed and declares that
namespace as its default namespace -/
def headOkB (S : Schema) (f : Field) : Bool :=
  let h := elemHead S f (invokedKind S f)
  (h.1.pfx != 0 && h.2.isEmpty && S.rootDecls.lookup h.1.pfx == some f.ns) ||
  (h.1.pfx == 0 && h.2 == [(0, f.ns)])

/-- per type: element tags pairwise distinguishable, attribute tags likewise and un-namespaced,
element tags namespaced and written with a head the decoder resolves, no value-typed
`AnExpression` field encoded by the default rules, and the defaults the marshaler applies are the
ones the unmarshaler applies -/
def typeOkB (S : Schema) (ty : Nat) : Bool :=
  pairwiseNoClash (elemFields S ty) && pairwiseNoClash (attrFields S ty)
  && (attrFields S ty).all (fun f => f.f.ns == 0)
  && (elemFields S ty).all (fun f => f.f.ns != 0 && headOkB S f.f
        && !(byDefaultRules S f.f && f.f.ty == S.anExprTy))
  && ((attrFields S ty).isEmpty || marshalDefaults S ty == unmarshalDefaults S ty)

def rtTableB (S : Schema) : Bool :=
  (List.range S.structs.length).all (fun i => i == S.anExprTy || typeOkB S i)
  && S.xsiPrefix != 0 && S.rootDecls.lookup S.xsiPrefix == some S.xsiNs
  && S.formalTy != S.anExprTy && S.informalTy != S.anExprTy && S.formalTy != S.informalTy
  && S.rootTy != S.anExprTy
  && !isFormalValue S S.informalValue
  && (attrFields S S.formalTy).all (·.f.name != S.typeLocal)
  && (attrFields S S.informalTy).all (·.f.name != S.typeLocal)

theorem fieldsOf_not_struct (S : Schema) (ty : Nat) (h : ¬ ty < S.structs.length) : fieldsOf S ty = [] := by
  have hs : S.struct? ty = none := List.getElem?_eq_none (Nat.not_lt.mp h)
  simp [fieldsOf, flattenFuel, flatten, hs]

theorem typeOkB_not_struct (S : Schema) (ty : Nat) (h : ¬ ty < S.structs.length) : typeOkB S ty = true := by
  simp [typeOkB, elemFields, attrFields, fieldsOf_not_struct S ty h, pairwiseNoClash]

/-- the invariant of the namespace environment below the root: every non-empty prefix means what
the root declared (elements below only ever add default-namespace declarations) -/
def EnvOk (S : Schema) (env : List (Nat × Nat)) : Prop :=
  ∀ p, p ≠ 0 → env.lookup p = S.rootDecls.lookup p

def ElemOk (S : Schema) (f : FField) : Prop :=
  f.f.ns ≠ 0 ∧ headOkB S f.f = true ∧ ¬ (byDefaultRules S f.f = true ∧ f.f.ty = S.anExprTy)

/-- `rtTableB S = true`, conjunct by conjunct -/
structure TableOk (S : Schema) : Prop where
  typeOk : ∀ ty, ty ≠ S.anExprTy → typeOkB S ty = true
  xsi_ne : S.xsiPrefix ≠ 0
  xsi_decl : S.rootDecls.lookup S.xsiPrefix = some S.xsiNs
  formal_ne : S.formalTy ≠ S.anExprTy
  informal_ne : S.informalTy ≠ S.anExprTy
  formal_ne_informal : S.formalTy ≠ S.informalTy
  root_ne : S.rootTy ≠ S.anExprTy
  informal_value : isFormalValue S S.informalValue = false
  expr_attrs : ∀ cty, cty = S.formalTy ∨ cty = S.informalTy → ∀ f ∈ attrFields S cty, f.f.name ≠ S.typeLocal

theorem tableOk (S : Schema) (h : rtTableB S = true) : TableOk S := by
  simp only [rtTableB, Bool.and_eq_true, Bool.or_eq_true, bne_iff_ne, ne_eq, beq_iff_eq, Bool.not_eq_true',
    List.all_eq_true, List.mem_range] at h
  obtain ⟨⟨⟨⟨⟨⟨⟨⟨⟨types, xsi_ne⟩, xsi_decl⟩, formal_ne⟩, informal_ne⟩, formal_ne_informal⟩, root_ne⟩, informal_value⟩,
    formal_attrs⟩, informal_attrs⟩ := h
  refine { xsi_ne, xsi_decl, formal_ne, informal_ne, formal_ne_informal, root_ne, informal_value,
           typeOk := fun ty hne => ?_, expr_attrs := fun cty hc => hc.elim (· ▸ formal_attrs) (· ▸ informal_attrs) }
  by_cases hs : ty < S.structs.length
  · exact (types ty hs).resolve_left hne
  · exact typeOkB_not_struct S ty hs

theorem typeOk_facts (S : Schema) (ty : Nat) (h : typeOkB S ty = true) :
    pairwiseNoClash (elemFields S ty) = true ∧ pairwiseNoClash (attrFields S ty) = true ∧
    (∀ f ∈ attrFields S ty, f.f.ns = 0) ∧ (∀ f ∈ elemFields S ty, ElemOk S f) ∧
    (attrFields S ty = [] ∨ marshalDefaults S ty = unmarshalDefaults S ty) := by
  simp only [typeOkB, Bool.and_eq_true, Bool.or_eq_true, List.all_eq_true, List.isEmpty_iff, beq_iff_eq,
    bne_iff_ne, ne_eq, Bool.not_eq_true', Bool.and_eq_false_iff, beq_eq_false_iff_ne] at h
  obtain ⟨⟨⟨⟨he, ha⟩, hns⟩, hel⟩, hd⟩ := h
  refine ⟨he, ha, hns, fun f hf => ?_, hd⟩
  obtain ⟨⟨h1, h2⟩, h3⟩ := hel f hf
  exact ⟨h1, h2, fun ⟨e1, e2⟩ => h3.elim (fun h => Bool.noConfusion (e1.symm.trans h)) (fun h => h e2)⟩

theorem elemHead_loc (S : Schema) (f : Field) (k : MarshalKind) : (elemHead S f k).1.loc = f.name := by
  unfold elemHead
  cases k <;> simp
  case pre => cases S.nsPrefix.lookup f.ns <;> simp

theorem head_resolves (S : Schema) (f : Field) (env : List (Nat × Nat)) (hh : headOkB S f = true)
    (henv : EnvOk S env) :
    resolveElem ((elemHead S f (invokedKind S f)).2 ++ env) (elemHead S f (invokedKind S f)).1 = some f.ns ∧
    EnvOk S ((elemHead S f (invokedKind S f)).2 ++ env) := by
  unfold headOkB at hh
  generalize elemHead S f (invokedKind S f) = h at hh
  obtain ⟨q, d⟩ := h
  simp only [Bool.or_eq_true, Bool.and_eq_true, bne_iff_ne, ne_eq, beq_iff_eq, List.isEmpty_iff] at hh
  rcases hh with ⟨⟨hp, rfl⟩, hl⟩ | ⟨hp, rfl⟩
  · exact ⟨by simp [resolveElem, henv q.pfx hp, hl], by simpa using henv⟩
  · refine ⟨by simp [resolveElem, hp], fun p hp0 => ?_⟩
    have : (p == 0) = false := by simpa using hp0
    simp [List.lookup, this, henv p hp0]

theorem attrs_back (S : Schema) (env : List (Nat × Nat)) (ty : Nat) (dflt : List (Nat × String))
    (extra : List (QN × String)) (a : List (Option String))
    (hok : typeOkB S ty = true) (hlen : a.length = (attrFields S ty).length)
    (hd : dflt = [] ∨ dflt = marshalDefaults S ty)
    (hextra : ∀ g ∈ attrFields S ty, ∀ rest, findAttr env g.f (extra ++ rest) = findAttr env g.f rest) :
    (attrFields S ty).map (fun f => (findAttr env f.f (extra ++ encodeAttrs dflt (attrFields S ty) a)).map
        (applyDefault (unmarshalDefaults S ty) f.f.go)) =
      normAttrs (unmarshalDefaults S ty) (attrFields S ty) a := by
  obtain ⟨_, hda, hns, _, hdef⟩ := typeOk_facts S ty hok
  rcases hdef with hnil | hdef
  · simp [hnil, normAttrs_nil_fields]
  · rw [← normAttrs_map, List.map_congr_left fun g hg => hextra g hg _,
      findAttr_encodeAttrs env dflt _ a hlen hda hns]
    exact normAttrs_absorb _ _ (hdef ▸ hd) _ a

/-- the type attribute written by `AnExpression.MarshalXML` is recognised exactly for a formal
expression, whatever other attributes the expression carries -/
theorem isFormal_typeAttr (S : Schema) (h : rtTableB S = true) (env : List (Nat × Nat)) (henv : EnvOk S env)
    (cty : Nat) (hc : cty = S.formalTy ∨ cty = S.informalTy) (d : List (Nat × String))
    (a : List (Option String)) :
    isFormal S env ([typeAttr S cty] ++ encodeAttrs d (attrFields S cty) a) = (cty == S.formalTy) := by
  have T := tableOk S h
  have hrest : (encodeAttrs d (attrFields S cty) a).any (fun (q, v) =>
      resolveAttr env q == some S.xsiNs && q.loc == S.typeLocal && isFormalValue S v) = false := by
    rw [List.any_eq_false]
    intro ⟨q, v⟩ hm
    obtain ⟨f, hf, rfl⟩ := encodeAttrs_mem d _ a (q, v) hm
    simp [T.expr_attrs cty hc f hf]
  have hres : resolveAttr env ⟨S.xsiPrefix, S.typeLocal⟩ = some S.xsiNs := by
    simp [resolveAttr, T.xsi_ne, henv S.xsiPrefix T.xsi_ne, T.xsi_decl]
  unfold isFormal
  rw [List.any_append, hrest]
  rcases hc with rfl | rfl
  · simp [typeAttr, hres, isFormalValue]
  · simp [typeAttr, hres, T.informal_value, T.formal_ne_informal.symm]

/-- the (field number, child) list the decoder builds for the children written field by field -/
def tagFrom : Nat → List (List Node) → List (Nat × Node)
  | _, [] => []
  | k, l :: ls => l.map (fun c => (k, c)) ++ tagFrom (k + 1) ls

theorem collect_append (i : Nat) (a b : List (Nat × Node)) :
    collect i (a ++ b) = collect i a ++ collect i b := by
  induction a with
  | nil => rfl
  | cons x xs ih =>
    obtain ⟨j, n⟩ := x
    simp only [List.cons_append, collect]
    by_cases h : (j == i) = true <;> simp [h, ih]

theorem collect_tag (i k : Nat) (l : List Node) :
    collect i (l.map (fun c => (k, c))) = if k = i then l else [] := by
  induction l with
  | nil => simp [collect]
  | cons c cs ih =>
    simp only [List.map_cons, collect, ih]
    by_cases h : k = i <;> simp [h]

theorem collect_tagFrom (i : Nat) : ∀ (ls : List (List Node)) (k : Nat),
    collect i (tagFrom k ls) = if k ≤ i then ls.getD (i - k) [] else [] := by
  intro ls
  induction ls with
  | nil => intro k; simp [tagFrom, collect]
  | cons l ls ih =>
    intro k
    rw [tagFrom, collect_append, collect_tag, ih (k + 1)]
    rcases Nat.lt_trichotomy k i with h | rfl | h
    · have : i - k = (i - (k + 1)) + 1 := by omega
      simp [Nat.ne_of_lt h, Nat.le_of_lt h, Nat.succ_le_of_lt h, this]
    · simp [Nat.not_succ_le_self]
    · simp [Nat.ne_of_gt h, Nat.not_le_of_gt h, Nat.not_le_of_gt (Nat.lt_succ_of_lt h)]

theorem normFields_eq_zipWith (S : Schema) (tr : String → String) :
    ∀ (fs : List FField) (kss : List (List Node)),
      normFields S tr fs kss = List.zipWith (fun f ks => normKids S tr f.f ks) fs kss
  | [], [] => rfl
  | _ :: _, [] => rfl
  | [], _ :: _ => rfl
  | f :: fs, ks :: kss => by rw [normFields, normFields_eq_zipWith S tr fs kss]; rfl

theorem wtFields_val (S : Schema) : ∀ (fs : List FField) (kss : List (List Node)),
    wtFields S fs kss = true →
      fs.length = kss.length ∧ ∀ (i : Nat) (h1 : i < fs.length) (h2 : i < kss.length),
        fs[i].f.rep = .val → kss[i] ≠ []
  | [], [], _ => ⟨rfl, fun i h1 => absurd h1 (Nat.not_lt_zero i)⟩
  | [], _ :: _, h => nomatch h
  | _ :: _, [], h => nomatch h
  | f :: fs, ks :: kss, h => by
    obtain ⟨hv, _, hrest⟩ := (wtFields_cons S f fs ks kss).mp h
    obtain ⟨hl, hall⟩ := wtFields_val S fs kss hrest
    refine ⟨by simp [hl], fun i h1 h2 => ?_⟩
    cases i with
    | zero => exact fun e => hv.resolve_left (not_not_intro e)
    | succ j => exact hall j (Nat.lt_of_succ_lt_succ h1) (Nat.lt_of_succ_lt_succ h2)

theorem fillValue_normKids (S : Schema) (tr : String → String) (f : Field) (ks : List Node)
    (h : f.rep = .val → ks ≠ []) : fillValue S f (normKids S tr f ks) = normKids S tr f ks := by
  cases ks with
  | nil =>
    have hv : f.rep ≠ .val := fun e => h e rfl
    simp [fillValue, hv]
  | cons c cs => cases c; simp [fillValue, normKids]

theorem kids_back (S : Schema) (tr : String → String) (efs : List FField) (kss : List (List Node))
    (hwf : wtFields S efs kss = true) :
    (efs.zipIdx).map (fun (p : FField × Nat) =>
        fillValue S p.1.f (collect p.2 (tagFrom 0 (normFields S tr efs kss)))) =
      normFields S tr efs kss := by
  obtain ⟨hl, hv⟩ := wtFields_val S efs kss hwf
  rw [normFields_eq_zipWith]
  apply List.ext_getElem
  · simp [hl]
  · intro i h1 h2
    have hi : i < efs.length := by simpa using h1
    simp only [List.getElem_map, List.getElem_zipIdx, collect_tagFrom, Nat.zero_le, if_true, Nat.sub_zero,
      Nat.zero_add, List.getD_eq_getElem?_getD, List.getElem?_eq_getElem h2, Option.getD_some,
      List.getElem_zipWith]
    exact fillValue_normKids S tr _ _ (hv i hi (hl ▸ hi))

/-- `marshalKids` is a four-way `if` (encoded by the default rules or not, `AnExpression` field or not) around a call
of `marshalNode`. `kidExtra`, `kidTrim`, `kidDefaults` give the arguments of that call in one expression each, so that
`marshalKids_cons` has one right-hand side and `rt_kids` one case. -/
def kidExtra (S : Schema) (f : Field) (cty : Nat) : List (QN × String) :=
  if !byDefaultRules S f && f.ty == S.anExprTy then [typeAttr S cty] else []

def kidDefaults (S : Schema) (f : Field) : List (Nat × String) :=
  if byDefaultRules S f || f.ty == S.anExprTy then [] else marshalDefaults S f.ty

theorem marshalKids_cons (S : Schema) (tr : String → String) (f : Field) (cty : Nat)
    (a : List (Option String)) (k : List (List Node)) (t : String) (cs : List Node)
    (h1 : ¬ (byDefaultRules S f = true ∧ f.ty = S.anExprTy)) (h2 : cty ≠ S.anExprTy) :
    marshalKids S tr f (.mk cty a k t :: cs) =
      marshalNode S tr (elemHead S f (invokedKind S f)) (kidExtra S f cty) (kidTrim S f cty)
        (kidDefaults S f) (.mk cty a k t) :: marshalKids S tr f cs := by
  rw [marshalKids]
  by_cases hb : byDefaultRules S f = true <;> by_cases he : f.ty = S.anExprTy
  · exact absurd ⟨hb, he⟩ h1
  all_goals simp [hb, he, h2, invokedKind, kidExtra, kidTrim, kidDefaults]

theorem kid_parseTy (S : Schema) (h : rtTableB S = true) (env : List (Nat × Nat)) (henv : EnvOk S env)
    (f : Field) (cty : Nat) (a : List (Option String))
    (hnv : ¬ (byDefaultRules S f = true ∧ f.ty = S.anExprTy))
    (hc1 : f.ty = S.anExprTy → cty = S.formalTy ∨ cty = S.informalTy) (hc2 : f.ty ≠ S.anExprTy → cty = f.ty) :
    parseTy S env f.ty (kidExtra S f cty ++ encodeAttrs (kidDefaults S f) (attrFields S cty) a) = cty := by
  unfold parseTy
  by_cases e : f.ty = S.anExprTy
  · have hb : byDefaultRules S f = false := Bool.eq_false_iff.mpr fun hb => hnv ⟨hb, e⟩
    have hke : kidExtra S f cty = [typeAttr S cty] := by simp [kidExtra, hb, e]
    rw [hke, isFormal_typeAttr S h env henv cty (hc1 e)]
    rcases hc1 e with rfl | rfl
    · simp [e]
    · simp [e, (tableOk S h).formal_ne_informal.symm]
  · simp [e, hc2 e]

theorem extra_inert (S : Schema) (T : TableOk S) (env : List (Nat × Nat)) (f : Field) (cty : Nat)
    (hc : f.ty = S.anExprTy → cty = S.formalTy ∨ cty = S.informalTy) :
    ∀ g ∈ attrFields S cty, ∀ rest, findAttr env g.f (kidExtra S f cty ++ rest) = findAttr env g.f rest := by
  intro g hg rest
  unfold kidExtra
  split
  · next he =>
    simp only [Bool.and_eq_true, beq_iff_eq] at he
    exact findAttr_skip env g.f _ _ rest (T.expr_attrs cty (hc he.2) g hg)
  · rfl

/-! ## The tree-level round trip

`rt_node` is stated for any `head`, `extra`, `trim`, `dflt`, so that the root (`roundtrip`) and every case of
`marshalKids` (`marshalKids_cons`) are instances. `rt_fields` carries the fields already done (`pre`): their number is
the field index at which `tagFrom` goes on. -/

mutual
theorem rt_node (S : Schema) (tr : String → String) (h : rtTableB S = true) :
    ∀ (n : Node) (env : List (Nat × Nat)) (head : QN × List (Nat × Nat)) (extra : List (QN × String))
      (trim : Bool) (dflt : List (Nat × String)) (ty : Nat),
      EnvOk S (head.2 ++ env) →
      wellTypedB S n = true →
      n.ty ≠ S.anExprTy →
      parseTy S (head.2 ++ env) ty (extra ++ encodeAttrs dflt (attrFields S n.ty) n.attrs) = n.ty →
      (dflt = [] ∨ dflt = marshalDefaults S n.ty) →
      (∀ g ∈ attrFields S n.ty, ∀ rest,
        findAttr (head.2 ++ env) g.f (extra ++ rest) = findAttr (head.2 ++ env) g.f rest) →
      parseElem S env ty (marshalNode S tr head extra trim dflt n) = some (norm S tr trim n)
  | .mk cty a k t, env, head, extra, trim, dflt, ty, henv, hwt, hne, hty, hd, hextra => by
    simp only [Node.ty, Node.attrs] at hne hty hd hextra
    have hok := (tableOk S h).typeOk cty hne
    obtain ⟨hlen, hwf, _⟩ := (wellTypedB_mk S cty a k t).mp hwt
    obtain ⟨hde, _, _, hel, _⟩ := typeOk_facts S cty hok
    have hkids := rt_fields S tr h k (head.2 ++ env) (elemFields S cty) [] (elemFields S cty) rfl
      henv hde hel hwf
    simp only [marshalNode, parseElem, hty, hkids, norm, List.length_nil,
      attrs_back S (head.2 ++ env) cty dflt extra a hok hlen hd hextra, kids_back S tr (elemFields S cty) k hwf]
    cases keepsText S cty <;> rfl

theorem rt_fields (S : Schema) (tr : String → String) (h : rtTableB S = true) :
    ∀ (kss : List (List Node)) (env : List (Nat × Nat)) (efs pre fs : List FField),
      efs = pre ++ fs → EnvOk S env → pairwiseNoClash efs = true → (∀ f ∈ efs, ElemOk S f) →
      wtFields S fs kss = true →
      parseKids S env efs (marshalFields S tr fs kss) = some (tagFrom pre.length (normFields S tr fs kss))
  | [], env, efs, pre, fs, _, _, _, _, _ => by
    cases fs <;> simp [marshalFields, normFields, tagFrom, parseKids]
  | ks :: kss, env, efs, pre, [], _, _, _, _, hwf => nomatch hwf
  | ks :: kss, env, efs, pre, f :: fs, he, henv, hd, hall, hwf => by
    obtain ⟨_, hk, hrest⟩ := (wtFields_cons S f fs ks kss).mp hwf
    have h1 := rt_kids S tr h ks env efs pre.length f (by simp [he]) henv hd hall hk
    have h2 := rt_fields S tr h kss env efs (pre ++ [f]) fs (by simp [he]) henv hd hall hrest
    rw [List.length_append] at h2
    exact parseKids_append S env efs _ _ h2 _ _ h1

theorem rt_kids (S : Schema) (tr : String → String) (h : rtTableB S = true) :
    ∀ (cs : List Node) (env : List (Nat × Nat)) (efs : List FField) (i : Nat) (f : FField),
      efs[i]? = some f → EnvOk S env → pairwiseNoClash efs = true → (∀ f ∈ efs, ElemOk S f) →
      wtKids S f.f cs = true →
      parseKids S env efs (marshalKids S tr f.f cs) = some ((normKids S tr f.f cs).map (fun c => (i, c)))
  | [], env, efs, i, f, _, _, _, _, _ => by simp [marshalKids, normKids, parseKids]
  | .mk cty a k t :: cs, env, efs, i, f, hi, henv, hd, hall, hwt => by
    obtain ⟨hty, _, hwn, hrest⟩ := (wtKids_cons S f.f cty a k t cs).mp hwt
    obtain ⟨_, hhead, hnv⟩ := hall f (List.mem_of_getElem? hi)
    have T := tableOk S h
    -- the child is a formal or an informal expression under an `AnExpression` field, else of the field's type
    have hc1 : f.f.ty = S.anExprTy → cty = S.formalTy ∨ cty = S.informalTy := fun e => by simpa [e] using hty
    have hc2 : f.f.ty ≠ S.anExprTy → cty = f.f.ty := fun e => by simpa [e] using hty
    have hcne : cty ≠ S.anExprTy := by
      by_cases e : f.f.ty = S.anExprTy
      · rcases hc1 e with rfl | rfl
        · exact T.formal_ne
        · exact T.informal_ne
      · exact hc2 e ▸ e
    have hdflt : kidDefaults S f.f = [] ∨ kidDefaults S f.f = marshalDefaults S cty := by
      by_cases e : f.f.ty = S.anExprTy
      · simp [kidDefaults, e]
      · cases hb : byDefaultRules S f.f <;> simp [kidDefaults, hb, e, hc2 e]
    obtain ⟨hres, henv'⟩ := head_resolves S f.f env hhead henv
    have hnode := rt_node S tr h (.mk cty a k t) env (elemHead S f.f (invokedKind S f.f)) (kidExtra S f.f cty)
      (kidTrim S f.f cty) (kidDefaults S f.f) f.f.ty henv' hwn hcne
      (kid_parseTy S h _ henv' f.f cty a hnv hc1 hc2) hdflt (extra_inert S T _ f.f cty hc1)
    have htail := rt_kids S tr h cs env efs i f hi henv hd hall hrest
    rw [marshalKids_cons S tr f.f cty a k t cs hnv hcne]
    rw [marshalNode] at hnode ⊢
    have hfind : ∀ ats ks tx, findField env (.elem _ _ ats ks tx) efs 0 = some (0 + i, f.f) := fun _ _ _ =>
      findField_of_distinct env _ efs i f 0 hd hi (elemHead_loc S f.f _) hres
    simp only [parseKids, hfind, Nat.zero_add, hnode, htail, normKids, List.map_cons]
end

/-- **Round trip, trees of any size and depth, any table that passes the check.** -/
theorem roundtrip (S : Schema) (tr : String → String) (h : rtTableB S = true) (n : Node)
    (hwt : wellTypedB S n = true) (hroot : n.ty = S.rootTy) :
    parse S (marshal S tr n) = some (normRoot S tr n) := by
  have hr := (tableOk S h).root_ne
  refine rt_node S tr h n [] (⟨S.rootPrefix, S.rootLocal⟩, S.rootDecls) [] (trimsText S S.rootTy) [] S.rootTy
    (fun p _ => by simp) hwt (hroot ▸ hr) ?_ (Or.inl rfl) (fun g _ rest => rfl)
  simp [parseTy, hr, hroot]

/-! ## What `norm` is: the identity when nothing is trimmed and no default applies -/

mutual
theorem norm_id (S : Schema) (hd : ∀ ty, unmarshalDefaults S ty = []) :
    ∀ (n : Node) (b : Bool), wellTypedB S n = true → norm S id b n = n
  | .mk ty a k t, b, hwt => by
    obtain ⟨hlen, hwf, htext⟩ := (wellTypedB_mk S ty a k t).mp hwt
    simp only [norm, hd ty, normAttrs_nil_id _ a hlen, normFields_id S hd k (elemFields S ty) hwf]
    rcases htext with hk | rfl
    · simp [hk]
    · cases keepsText S ty <;> cases b <;> rfl
theorem normFields_id (S : Schema) (hd : ∀ ty, unmarshalDefaults S ty = []) :
    ∀ (kss : List (List Node)) (fs : List FField), wtFields S fs kss = true → normFields S id fs kss = kss
  | [], fs, h => by cases fs <;> simp [normFields]
  | ks :: kss, [], h => nomatch h
  | ks :: kss, f :: fs, h => by
    obtain ⟨_, hk, hrest⟩ := (wtFields_cons S f fs ks kss).mp h
    rw [normFields, normKids_id S hd ks f.f hk, normFields_id S hd kss fs hrest]
theorem normKids_id (S : Schema) (hd : ∀ ty, unmarshalDefaults S ty = []) :
    ∀ (cs : List Node) (f : Field), wtKids S f cs = true → normKids S id f cs = cs
  | [], f, _ => by simp [normKids]
  | .mk cty a k t :: cs, f, h => by
    obtain ⟨_, _, hn, hrest⟩ := (wtKids_cons S f cty a k t cs).mp h
    rw [normKids, norm_id S hd (.mk cty a k t) _ hn, normKids_id S hd cs f hrest]
end

/-- `norm` keeps the shape: same types, same number of attributes and of children everywhere (`Skel` of `Lemmas/Xml`
forgets the text only) -/
inductive Shape where
  | mk (ty : Nat) (nattrs : Nat) (kids : List (List Shape))

mutual
def shape : Node → Shape
  | .mk ty attrs kids _ => .mk ty attrs.length (shapeFields kids)
def shapeFields : List (List Node) → List (List Shape)
  | [] => []
  | ks :: kss => shapeKids ks :: shapeFields kss
def shapeKids : List Node → List Shape
  | [] => []
  | c :: cs => shape c :: shapeKids cs
end

mutual
theorem norm_shape (S : Schema) (tr : String → String) :
    ∀ (n : Node) (b : Bool), wellTypedB S n = true → shape (norm S tr b n) = shape n
  | .mk ty a k t, b, hwt => by
    obtain ⟨hlen, hwf, _⟩ := (wellTypedB_mk S ty a k t).mp hwt
    simp [norm, shape, normAttrs_length _ _ a hlen, normFields_shape S tr k (elemFields S ty) hwf]
theorem normFields_shape (S : Schema) (tr : String → String) :
    ∀ (kss : List (List Node)) (fs : List FField), wtFields S fs kss = true →
      shapeFields (normFields S tr fs kss) = shapeFields kss
  | [], fs, h => by cases fs <;> simp [normFields, shapeFields]
  | ks :: kss, [], h => nomatch h
  | ks :: kss, f :: fs, h => by
    obtain ⟨_, hk, hrest⟩ := (wtFields_cons S f fs ks kss).mp h
    rw [normFields, shapeFields, shapeFields, normKids_shape S tr ks f.f hk, normFields_shape S tr kss fs hrest]
theorem normKids_shape (S : Schema) (tr : String → String) :
    ∀ (cs : List Node) (f : Field), wtKids S f cs = true → shapeKids (normKids S tr f cs) = shapeKids cs
  | [], f, _ => by simp [normKids, shapeKids]
  | .mk cty a k t :: cs, f, h => by
    obtain ⟨_, _, hn, hrest⟩ := (wtKids_cons S f cty a k t cs).mp h
    rw [normKids, shapeKids, shapeKids, norm_shape S tr (.mk cty a k t) _ hn, normKids_shape S tr cs f hrest]
end

end Bpmn.Model.Xml
