import Bpmn.Model.Timer
/-! Helper lemmas for C13: the mock clock's operations in terms of membership, the successor states of the timer
goroutine (`Step`), and two inductive invariants over them: `Inv` for every history, `Mono` for histories whose
clock never goes back. -/
namespace Bpmn.Lemmas.Timer
open Bpmn.Model.Timer

theorem mem_insertDue (x y : Int × Nat) (l : List (Int × Nat)) :
    y ∈ insertDue x l ↔ y = x ∨ y ∈ l := by
  induction l with
  | nil => simp [insertDue]
  | cons z zs ih =>
    unfold insertDue
    split
    · exact List.mem_cons
    · rw [List.mem_cons, ih, List.mem_cons]
      exact or_left_comm

theorem mem_sortDue (y : Int × Nat) (l : List (Int × Nat)) : y ∈ sortDue l ↔ y ∈ l := by
  induction l with
  | nil => exact Iff.rfl
  | cons z zs ih => rw [sortDue, mem_insertDue, ih, List.mem_cons]

theorem until_next (m : Mock) (t : Int) : (m.until t).1.next = m.next + 1 := by
  unfold Mock.until; split <;> rfl

theorem until_id (m : Mock) (t : Int) : (m.until t).2 = m.next := by
  unfold Mock.until; split <;> rfl

theorem until_now (m : Mock) (t : Int) : (m.until t).1.now = m.now := by
  unfold Mock.until; split <;> rfl

theorem mem_until_box {m : Mock} {t : Int} {e : Nat × Int} :
    e ∈ (m.until t).1.box ↔ e ∈ m.box ∨ (t ≤ m.now ∧ e = (m.next, m.now)) := by
  unfold Mock.until; split <;> simp [*]

theorem mem_until_timers {m : Mock} {t : Int} {e : Int × Nat} :
    e ∈ (m.until t).1.timers ↔ e ∈ m.timers ∨ (¬ t ≤ m.now ∧ e = (t, m.next)) := by
  unfold Mock.until; split <;> simp [*]

theorem set_next (m : Mock) (t : Int) : (m.set t).next = m.next := rfl
theorem set_now (m : Mock) (t : Int) : (m.set t).now = t := rfl

theorem mem_set_timers {m : Mock} {t : Int} {e : Int × Nat} :
    e ∈ (m.set t).timers ↔ e ∈ m.timers ∧ ¬ e.1 ≤ t := by
  simp [Mock.set, mem_sortDue]

theorem mem_set_box {m : Mock} {t : Int} {e : Nat × Int} :
    e ∈ (m.set t).box ↔ e ∈ m.box ∨ (e.2 = t ∧ ∃ x, (x, e.1) ∈ m.timers ∧ x ≤ t) := by
  obtain ⟨c, v⟩ := e
  simp only [Mock.set, Mock.dueAt, List.mem_append, List.mem_map, List.mem_filter, mem_sortDue,
    decide_eq_true_eq, Prod.mk.injEq]
  constructor
  · rintro (h | ⟨⟨x, c'⟩, ⟨hm, hx⟩, hc, hv⟩)
    · exact Or.inl h
    · subst hc; exact Or.inr ⟨hv.symm, x, hm, hx⟩
  · rintro (h | ⟨hv, x, hm, hx⟩)
    · exact Or.inl h
    · exact Or.inr ⟨(x, c), ⟨hm, hx⟩, rfl, hv.symm⟩

theorem take_next (m : Mock) (c : Nat) : (m.take c).next = m.next := rfl
theorem take_now (m : Mock) (c : Nat) : (m.take c).now = m.now := rfl
theorem take_timers (m : Mock) (c : Nat) : (m.take c).timers = m.timers := rfl

theorem mem_take_box {m : Mock} {c : Nat} {e : Nat × Int} :
    e ∈ (m.take c).box ↔ e ∈ m.box ∧ e.1 ≠ c := by
  simp [Mock.take]

theorem peek_some {m : Mock} {c : Nat} {v : Int} (h : m.peek c = some v) : (c, v) ∈ m.box := by
  obtain ⟨⟨c', v'⟩, he, hv⟩ := Option.map_eq_some_iff.1 h
  have hc : (c' == c) = true := List.find?_some (p := fun e : Nat × Int => e.1 == c) he
  cases eq_of_beq hc
  cases (show v' = v from hv)
  exact List.mem_of_find?_eq_some he

theorem peek_isSome_of_mem {m : Mock} {c : Nat} {v : Int} (h : (c, v) ∈ m.box) :
    (m.peek c).isSome = true := by
  rw [Mock.peek, Option.isSome_map, List.find?_isSome]
  exact ⟨_, h, beq_self_eq_true c⟩

theorem pick_mem {alts : List Alt} {choice : Nat} {a : Alt} (h : pick alts choice = some a) :
    a ∈ alts :=
  List.mem_of_getElem? h

theorem mem_altIf (b : Bool) (a x : Alt) : x ∈ altIf b a ↔ b = true ∧ x = a := by
  unfold altIf; cases b <;> simp

theorem pick_single (a : Alt) (k : Nat) : pick [a] k = some a := by
  simp [pick, Nat.mod_one]

theorem pick_zero_none (alts : List Alt) (h : pick alts 0 = none) : alts = [] := by
  cases alts with
  | nil => rfl
  | cons a as => simp [pick] at h

theorem endB_of_not_cycle {d : Def} (h : d.isCycle = false) : d.endB = none := by
  cases d with
  | cycle => cases h
  | _ => rfl

theorem interval_of_not_cycle {d : Def} (h : d.isCycle = false) : d.interval = 0 := by
  cases d with
  | cycle => cases h
  | _ => rfl

theorem iterate_fired (d : Def) (s : St) (reps t : Int) : (iterate d s reps t).fired = s.fired := by
  unfold iterate; split
  · rfl
  · dsimp only; split <;> rfl

theorem iterate_cancelled (d : Def) (s : St) (reps t : Int) :
    (iterate d s reps t).cancelled = s.cancelled := by
  unfold iterate; split
  · rfl
  · dsimp only; split <;> rfl

theorem iterate_now (d : Def) (s : St) (reps t : Int) : (iterate d s reps t).m.now = s.m.now := by
  unfold iterate; split
  · rfl
  · dsimp only; split
    · exact until_now _ _
    · exact (until_now _ _).trans (until_now _ _)

theorem iterate_ph (d : Def) (s : St) (reps t : Int) :
    (reps = 0 ∧ (iterate d s reps t).ph = .stopped true) ∨ ∃ c ce, (iterate d s reps t).ph = .loop reps t c ce := by
  unfold iterate
  split
  · exact .inl ⟨‹_›, rfl⟩
  · dsimp only
    split <;> exact .inr ⟨_, _, rfl⟩

theorem init_eq (d : Def) (now0 : Int) :
    init d now0 =
      { m := ((Mock.at now0).until (d.origin now0)).1,
        ph := if d.isCycle then .waitStart ((Mock.at now0).until (d.origin now0)).2 (d.origin now0)
              else .oneShot ((Mock.at now0).until (d.origin now0)).2,
        cancelled := false, fired := [] } := by
  cases d <;> rfl

/-- one constructor per way the goroutine moves; only the guards the invariants use are recorded -/
inductive Step (d : Def) (s : St) : St → Prop
  | fire (c : Nat) (v : Int) (hph : s.ph = .oneShot c) (hv : s.m.peek c = some v) :
      Step d s { s with m := s.m.take c, ph := .stopped true, fired := s.fired ++ [⟨v, s.m.now⟩] }
  | start (c : Nat) (st : Int) (hph : s.ph = .waitStart c st) :
      Step d s (iterate d { s with m := s.m.take c } d.reps st)
  | next (reps t : Int) (c : Nat) (ce : Option Nat) (v : Int) (fired' : List Firing)
      (hph : s.ph = .loop reps t c ce) (hv : s.m.peek c = some v)
      (hf : (fired' = s.fired ++ [⟨v, s.m.now⟩] ∧ ∀ e, d.endB = some e → s.m.now < e) ∨
        (fired' = s.fired ∧ d.endB ≠ none)) :
      Step d s (iterate d { s with m := s.m.take c, fired := fired' } (if 0 < reps then reps - 1 else reps) v)
  | drop : Step d s { s with ph := .stopped false }
  | stop (reps t : Int) (c : Nat) (ce : Option Nat) (hph : s.ph = .loop reps t c ce)
      (hq : s.cancelled = true ∨ ce ≠ none) : Step d s { s with ph := .stopped true }

theorem step_sound {d : Def} {k : Nat} {s s' : St} (h : step d k s = some s') : Step d s s' := by
  unfold step at h
  split at h
  · cases h
  · next c hph =>
    split at h
    · cases h
    · split at h <;> cases h
      exact .fire c _ hph ‹_›
    · cases h; exact .drop
  · next c st hph =>
    split at h <;> cases h
    · exact .start c st hph
    · exact .drop
  · next reps t c ce hph =>
    split at h
    · cases h
    · split at h <;> cases h
      next v hv =>
      refine .next reps t c ce v _ hph hv ?_
      cases hfire : d.endB.all (fun e => decide (s.m.now < e)) with
      | true => exact .inl ⟨rfl, fun e he => by rw [he] at hfire; exact of_decide_eq_true hfire⟩
      | false => exact .inr ⟨rfl, fun hn => by rw [hn] at hfire; cases hfire⟩
    · next a hne hpick =>
      cases h
      refine .stop reps t c ce hph ?_
      have hmem := pick_mem hpick
      simp only [List.mem_append, mem_altIf] at hmem
      rcases hmem with (⟨hE, _⟩ | ⟨hD, _⟩) | ⟨_, hT⟩
      · exact .inr fun hn => by rw [hn] at hE; cases hE
      · exact .inl hD
      · exact absurd hT (fun e => hne (e ▸ rfl))

theorem run_append (d : Def) (s : St) (e1 e2 : List Ev) :
    run d s (e1 ++ e2) = run d (run d s e1) e2 :=
  List.foldl_append

theorem run_inv {P : St → Prop} (d : Def) (hset : ∀ s t, P s → P { s with m := s.m.set t })
    (hcancel : ∀ s, P s → P { s with cancelled := true }) (hstep : ∀ s s', P s → Step d s s' → P s')
    (evs : List Ev) (s : St) (h : P s) : P (run d s evs) :=
  List.foldlRecOn evs (apply d) h fun s h e _ => by
    cases e with
    | advance x => exact hset s _ h
    | set t => exact hset s t h
    | cancel => exact hcancel s h
    | tick k =>
      show P ((step d k s).getD s)
      cases hs : step d k s with
      | none => exact h
      | some s' => exact hstep s s' h (step_sound hs)

def IdsOK (m : Mock) : Prop :=
  (∀ e ∈ m.timers, e.2 < m.next) ∧ (∀ e ∈ m.box, e.1 < m.next)

/-- channel `c` was asked to wake at `due`: whatever is pending for it is due no earlier, whatever
has been delivered into it carries a clock reading no earlier -/
def ChanOK (m : Mock) (c : Nat) (due : Int) : Prop :=
  c < m.next ∧ (∀ v, (c, v) ∈ m.box → due ≤ v) ∧ (∀ x, (x, c) ∈ m.timers → due ≤ x)

def Armed (m : Mock) (c : Nat) (due : Int) : Prop := (∃ v, (c, v) ∈ m.box) ∨ (due, c) ∈ m.timers

theorem idsOK_until {m : Mock} (t : Int) (h : IdsOK m) : IdsOK (m.until t).1 := by
  obtain ⟨h1, h2⟩ := h
  refine ⟨fun e he => ?_, fun e he => ?_⟩
  · rw [until_next]
    rcases mem_until_timers.mp he with he | ⟨_, rfl⟩
    · exact Nat.lt_succ_of_lt (h1 e he)
    · exact Nat.lt_succ_self _
  · rw [until_next]
    rcases mem_until_box.mp he with he | ⟨_, rfl⟩
    · exact Nat.lt_succ_of_lt (h2 e he)
    · exact Nat.lt_succ_self _

theorem idsOK_set {m : Mock} (t : Int) (h : IdsOK m) : IdsOK (m.set t) := by
  obtain ⟨h1, h2⟩ := h
  refine ⟨fun e he => h1 e (mem_set_timers.mp he).1, fun e he => ?_⟩
  rcases mem_set_box.mp he with he | ⟨_, x, hx, _⟩
  · exact h2 e he
  · exact h1 _ hx

theorem idsOK_take {m : Mock} (c : Nat) (h : IdsOK m) : IdsOK (m.take c) :=
  ⟨h.1, fun e he => h.2 e (mem_take_box.mp he).1⟩

theorem chanOK_until_old {m : Mock} {c : Nat} {due : Int} (t : Int) (h : ChanOK m c due) :
    ChanOK (m.until t).1 c due := by
  obtain ⟨h0, h1, h2⟩ := h
  refine ⟨by rw [until_next]; exact Nat.lt_succ_of_lt h0, fun v hv => ?_, fun x hx => ?_⟩
  · rcases mem_until_box.mp hv with hv | ⟨_, hv⟩
    · exact h1 v hv
    · exact absurd (congrArg Prod.fst hv) (Nat.ne_of_lt h0)
  · rcases mem_until_timers.mp hx with hx | ⟨_, hx⟩
    · exact h2 x hx
    · exact absurd (congrArg Prod.snd hx) (Nat.ne_of_lt h0)

theorem chanOK_until_new {m : Mock} (t : Int) (h : IdsOK m) :
    ChanOK (m.until t).1 (m.until t).2 t := by
  obtain ⟨h1, h2⟩ := h
  rw [until_id]
  refine ⟨by rw [until_next]; exact Nat.lt_succ_self _, fun v hv => ?_, fun x hx => ?_⟩
  · rcases mem_until_box.mp hv with hv | ⟨ht, hv⟩
    · exact absurd (h2 _ hv) (Nat.lt_irrefl _)
    · exact (Prod.mk.inj hv).2 ▸ ht
  · rcases mem_until_timers.mp hx with hx | ⟨_, hx⟩
    · exact absurd (h1 _ hx) (Nat.lt_irrefl _)
    · exact Int.le_of_eq (congrArg Prod.fst hx).symm

theorem chanOK_set {m : Mock} {c : Nat} {due : Int} (t : Int) (h : ChanOK m c due) :
    ChanOK (m.set t) c due := by
  obtain ⟨h0, h1, h2⟩ := h
  refine ⟨h0, fun v hv => ?_, fun x hx => h2 x (mem_set_timers.mp hx).1⟩
  rcases mem_set_box.mp hv with hv | ⟨hv, x, hx, hxt⟩
  · exact h1 v hv
  · exact (show v = t from hv) ▸ Int.le_trans (h2 x hx) hxt

theorem chanOK_take (m : Mock) (c' c : Nat) (due : Int) (h : ChanOK m c due) :
    ChanOK (m.take c') c due := by
  obtain ⟨h0, h1, h2⟩ := h
  exact ⟨h0, fun v hv => h1 v (mem_take_box.mp hv).1, h2⟩

theorem armed_until_new (m : Mock) (t : Int) : Armed (m.until t).1 (m.until t).2 t := by
  rw [until_id]
  by_cases h : t ≤ m.now
  · exact Or.inl ⟨m.now, mem_until_box.mpr (Or.inr ⟨h, rfl⟩)⟩
  · exact Or.inr (mem_until_timers.mpr (Or.inr ⟨h, rfl⟩))

theorem armed_until_old {m : Mock} {c : Nat} {due : Int} (t : Int) (h : Armed m c due) :
    Armed (m.until t).1 c due :=
  h.imp (fun ⟨v, hv⟩ => ⟨v, mem_until_box.mpr (Or.inl hv)⟩)
    fun h => mem_until_timers.mpr (Or.inl h)

theorem armed_set {m : Mock} {c : Nat} {due : Int} (t : Int) (h : Armed m c due) :
    Armed (m.set t) c due := by
  rcases h with ⟨v, hv⟩ | h
  · exact Or.inl ⟨v, mem_set_box.mpr (Or.inl hv)⟩
  · by_cases hd : due ≤ t
    · exact Or.inl ⟨t, mem_set_box.mpr (Or.inr ⟨rfl, due, h, hd⟩)⟩
    · exact Or.inr (mem_set_timers.mpr ⟨h, hd⟩)

theorem armed_set_ready {m : Mock} {T : Int} {c : Nat} {due : Int} (h : Armed m c due)
    (hT : due ≤ T) : ((m.set T).peek c).isSome = true := by
  rcases h with ⟨v, hv⟩ | h
  · exact peek_isSome_of_mem (v := v) (mem_set_box.mpr (Or.inl hv))
  · exact peek_isSome_of_mem (v := T) (mem_set_box.mpr (Or.inr ⟨rfl, due, h, hT⟩))

/-- A cycle with `d.reps ≥ 0` repetitions that has fired `n` times has `r` repetitions left: no more than `d.reps` in
all, and exactly `d.reps` when no end bound can cut a firing. -/
def Counts (d : Def) (n : Nat) (r : Int) : Prop :=
  0 ≤ d.reps → 0 ≤ r ∧ (n : Int) + r ≤ d.reps ∧ (d.endB = none → (n : Int) + r = d.reps)

theorem counts_start (d : Def) : Counts d 0 d.reps :=
  fun hn => ⟨hn, Int.le_of_eq (Int.zero_add _), fun _ => Int.zero_add _⟩

theorem counts_next {d : Def} {n : Nat} {r : Int} (h : Counts d n r) (hr0 : r ≠ 0) :
    Counts d (n + 1) (if 0 < r then r - 1 else r) ∧ (d.endB ≠ none → Counts d n (if 0 < r then r - 1 else r)) := by
  have hpos (hn : 0 ≤ d.reps) : 0 < r := by have := (h hn).1; omega
  refine ⟨fun hn => ?_, fun hne hn => ?_⟩
  · obtain ⟨h1, h2, h3⟩ := h hn
    rw [if_pos (hpos hn)]
    exact ⟨by omega, by omega, fun he => by have := h3 he; omega⟩
  · obtain ⟨h1, h2, h3⟩ := h hn
    rw [if_pos (hpos hn)]
    exact ⟨by omega, by omega, fun he => absurd he hne⟩

/-- `z`: the first due time -/
def PhaseOK (d : Def) (z : Int) (m : Mock) (fired : List Firing) (cancelled : Bool) : Phase → Prop
  | .oneShot c => Armed m c z ∧ ChanOK m c z ∧ d.isCycle = false ∧ fired = []
  | .waitStart c st => Armed m c z ∧ ChanOK m c z ∧ d.isCycle = true ∧ fired = [] ∧ st = z
  | .loop reps t c ce =>
    Armed m c (t + d.interval) ∧ ChanOK m c (t + d.interval) ∧ d.isCycle = true ∧ reps ≠ 0 ∧ (d.endB = none → ce = none) ∧
    Counts d fired.length reps
  | .stopped b => b = true →
    (d.isCycle = false → fired.length = 1) ∧
    (d.isCycle = true → 0 ≤ d.reps → cancelled = false → d.endB = none → (fired.length : Int) = d.reps)

def DueOK (z i : Int) (l : List Firing) : Prop :=
  ∀ (k : Nat) (f : Firing), l[k]? = some f → z + i * ((k : Int) + 1) ≤ f.wake

theorem dueOK_nil (z i : Int) : DueOK z i [] := fun k f h => by
  rw [List.getElem?_nil] at h
  cases h

theorem dueOK_concat {z i : Int} {l : List Firing} {f : Firing} (h : DueOK z i l)
    (hf : z + i * ((l.length : Int) + 1) ≤ f.wake) : DueOK z i (l ++ [f]) := by
  intro k g hk
  rcases Nat.lt_or_ge k l.length with hlt | hge
  · exact h k g (List.getElem?_append_left hlt ▸ hk)
  · rw [List.getElem?_append_right hge, List.getElem?_singleton] at hk
    split at hk
    · cases hk
      rwa [show k = l.length by omega]
    · cases hk

/-- the readings the firings carry: an interval apart, the k-th not before its due time; in the loop, `t` is the
last delivered time, which no firing's reading exceeds -/
def Timing (d : Def) (z : Int) (fired : List Firing) (ph : Phase) : Prop :=
  fired.Pairwise (fun a b => a.wake + d.interval ≤ b.wake) ∧ DueOK z d.interval fired ∧
  match ph with
  | .loop _ t _ _ => z + d.interval * (fired.length : Int) ≤ t ∧ ∀ f ∈ fired, f.wake ≤ t
  | _ => True

/-- What holds of every reachable state of a timer for definition `d` whose first due time is `z`. Only `timing`
reasons about the order of clock readings, and only it needs the interval to be non-negative: when the end bound cuts
a firing, the loop goes on from the reading delivered then. -/
structure Inv (d : Def) (z : Int) (s : St) : Prop where
  endB : ∀ f ∈ s.fired, ∀ e, d.endB = some e → f.clock < e
  once : d.isCycle = false → s.fired.length ≤ 1
  count : d.isCycle = true → 0 ≤ d.reps → (s.fired.length : Int) ≤ d.reps
  ids : IdsOK s.m
  phase : PhaseOK d z s.m s.fired s.cancelled s.ph
  timing : 0 ≤ d.interval → Timing d z s.fired s.ph

theorem inv_init (d : Def) (now0 : Int) : Inv d (d.origin now0) (init d now0) := by
  have hids : IdsOK (Mock.at now0) := ⟨nofun, nofun⟩
  have ha := armed_until_new (Mock.at now0) (d.origin now0)
  have hch := chanOK_until_new (d.origin now0) hids
  rw [init_eq]
  refine ⟨nofun, fun _ => Nat.zero_le _, fun _ h => h, idsOK_until _ hids, ?_, fun _ => ⟨.nil, dueOK_nil _ _, ?_⟩⟩
  · show PhaseOK d _ _ [] false (if d.isCycle = true then _ else _)
    cases hc : d.isCycle
    · exact ⟨ha, hch, hc, rfl⟩
    · exact ⟨ha, hch, hc, rfl, rfl⟩
  · cases d.isCycle <;> trivial

theorem inv_set {d : Def} {z : Int} (s : St) (t : Int) (h : Inv d z s) : Inv d z { s with m := s.m.set t } := by
  refine { h with ids := idsOK_set _ h.ids, phase := ?_ }
  have hp := h.phase
  show PhaseOK d z (s.m.set t) s.fired s.cancelled s.ph
  generalize s.ph = ph at hp
  cases ph with
  | stopped b => exact hp
  | _ => exact ⟨armed_set _ hp.1, chanOK_set _ hp.2.1, hp.2.2⟩

theorem inv_cancel {d : Def} {z : Int} (s : St) (h : Inv d z s) : Inv d z { s with cancelled := true } := by
  refine { h with phase := ?_ }
  have hp := h.phase
  show PhaseOK d z s.m s.fired true s.ph
  generalize s.ph = ph at hp
  cases ph with
  | stopped b => exact fun hb => ⟨(hp hb).1, fun _ _ => nofun⟩
  | _ => exact hp

/-- `t`: the last delivered time (of the loop phase `Timing` looks at `t` only) -/
theorem inv_iterate {d : Def} {z : Int} {s : St} {reps t : Int} (hc : d.isCycle = true)
    (he : ∀ f ∈ s.fired, ∀ e, d.endB = some e → f.clock < e)
    (hr : Counts d s.fired.length reps)
    (hids : IdsOK s.m) (ht : 0 ≤ d.interval → Timing d z s.fired (.loop reps t 0 none)) :
    Inv d z (iterate d s reps t) := by
  have hcount : d.isCycle = true → 0 ≤ d.reps → (s.fired.length : Int) ≤ d.reps := fun _ hn => by
    have := hr hn; omega
  have honce : d.isCycle = false → s.fired.length ≤ 1 := fun h => by rw [hc] at h; cases h
  unfold iterate
  split
  · rename_i h0
    refine ⟨he, honce, hcount, hids, fun _ => ⟨fun h => (by rw [hc] at h; cases h), fun _ hn _ hend => ?_⟩,
      fun hI => ⟨(ht hI).1, (ht hI).2.1, trivial⟩⟩
    have := (hr hn).2.2 hend
    rwa [h0, Int.add_zero] at this
  · rename_i h0
    have ha := armed_until_new s.m (t + d.interval)
    have hch := chanOK_until_new (t + d.interval) hids
    have hids1 := idsOK_until (t + d.interval) hids
    dsimp only
    split
    · exact ⟨he, honce, hcount, hids1, ⟨ha, hch, hc, h0, fun _ => rfl, hr⟩, ht⟩
    · rename_i e hend
      exact ⟨he, honce, hcount, idsOK_until e hids1,
        ⟨armed_until_old e ha, chanOK_until_old e hch, hc, h0, fun h => (by rw [hend] at h; cases h), hr⟩, ht⟩

theorem due_next {z i t v : Int} {n : Nat} (hlen : z + i * (n : Int) ≤ t) (hv : t + i ≤ v) :
    z + i * ((n : Int) + 1) ≤ v := by
  rw [Int.mul_add, Int.mul_one, ← Int.add_assoc]
  exact Int.le_trans (Int.add_le_add_right hlen _) hv

theorem inv_step {d : Def} {z : Int} (s s' : St) (h : Inv d z s) (hs : Step d s s') : Inv d z s' := by
  have hp := h.phase
  cases hs with
  | fire c v hph hv =>
    rw [hph] at hp
    obtain ⟨_, hw, hd, hf⟩ := hp
    have hlen : (s.fired ++ [(⟨v, s.m.now⟩ : Firing)]).length = 1 := by rw [hf]; rfl
    have hnc (hc : d.isCycle = true) : False := by rw [hd] at hc; cases hc
    refine ⟨fun _ _ e he => ?_, fun _ => Nat.le_of_eq hlen, fun hc => (hnc hc).elim, idsOK_take _ h.ids,
      fun _ => ⟨fun _ => hlen, fun hc => (hnc hc).elim⟩, fun hI => ⟨?_, ?_, trivial⟩⟩
    · rw [endB_of_not_cycle hd] at he
      cases he
    · show (s.fired ++ [_]).Pairwise _
      rw [hf]
      exact List.pairwise_singleton ..
    · -- the interval of a date or duration timer is 0: the one firing has to be at or after `z`
      refine dueOK_concat (h.timing hI).2.1 ?_
      rw [interval_of_not_cycle hd, Int.zero_mul, Int.add_zero]
      exact hw.2.1 v (peek_some hv)
  | start c st hph =>
    rw [hph] at hp
    obtain ⟨_, _, hd, hf, rfl⟩ := hp
    refine inv_iterate hd h.endB ?_ (idsOK_take _ h.ids) fun hI => ?_
    · show Counts d s.fired.length d.reps
      rw [hf]
      exact counts_start d
    · show Timing d st s.fired _
      rw [hf]
      exact ⟨.nil, dueOK_nil _ _, Int.le_of_eq (by rw [List.length_nil, Int.natCast_zero, Int.mul_zero, Int.add_zero]),
        List.forall_mem_nil _⟩
  | next reps t c ce v fired' hph hv hf =>
    rw [hph] at hp
    obtain ⟨_, hw, hc, hr0, _, hr⟩ := hp
    refine inv_iterate hc ?_ ?_ (idsOK_take _ h.ids) fun hI => ?_
    · -- a firing is sent only before the end bound
      rcases hf with ⟨rfl, hf⟩ | ⟨rfl, _⟩
      · intro f hm e he
        rcases List.mem_append.1 hm with hm | hm
        · exact h.endB f hm e he
        · cases List.mem_singleton.1 hm; exact hf e he
      · exact h.endB
    · show Counts d fired'.length _
      rcases hf with ⟨rfl, _⟩ | ⟨rfl, hne⟩
      · rw [List.length_append]
        exact (counts_next hr hr0).1
      · exact (counts_next hr hr0).2 hne
    · have ht := h.timing hI
      rw [hph] at ht
      obtain ⟨hsp, hdue, hlen, hwk⟩ := ht
      -- the wake-up was asked for `t + interval`: it carries no earlier reading
      have hv' : t + d.interval ≤ v := hw.2.1 v (peek_some hv)
      have htv : t ≤ v := Int.le_trans (Int.le_add_of_nonneg_right hI) hv'
      rcases hf with ⟨rfl, _⟩ | ⟨rfl, _⟩
      · have hnext := due_next hlen hv'
        refine ⟨List.pairwise_append.2 ⟨hsp, List.pairwise_singleton .., fun a ha b hb => ?_⟩,
          dueOK_concat hdue hnext, by rw [List.length_append]; exact hnext, fun f hm => ?_⟩
        · cases List.mem_singleton.1 hb
          exact Int.le_trans (Int.add_le_add_right (hwk a ha) _) hv'
        · rcases List.mem_append.1 hm with hm | hm
          · exact Int.le_trans (hwk f hm) htv
          · cases List.mem_singleton.1 hm; exact Int.le_refl _
      · -- the end bound cut the firing; the loop goes on from the delivered time, later by `interval ≥ 0`
        exact ⟨hsp, hdue, Int.le_trans hlen htv, fun f hm => Int.le_trans (hwk f hm) htv⟩
  | drop =>
    exact { h with phase := nofun, timing := fun hI => ⟨(h.timing hI).1, (h.timing hI).2.1, trivial⟩ }
  | stop reps t c ce hph hq =>
    rw [hph] at hp
    obtain ⟨_, _, hcycle, _, hnoEnd, _⟩ := hp
    refine { h with
      phase := fun _ => ⟨fun hc => (by rw [hcycle] at hc; cases hc), fun _ _ hnc hend => ?_⟩
      timing := fun hI => ⟨(h.timing hI).1, (h.timing hI).2.1, trivial⟩ }
    -- with no end bound there is no end wake-up, and the context is not cancelled: the loop cannot have returned
    exact (hq.elim (fun hcn => by rw [hnc] at hcn; cases hcn) fun hce => hce (hnoEnd hend)).elim

theorem inv_run (d : Def) (z : Int) (evs : List Ev) (s : St) (h : Inv d z s) : Inv d z (run d s evs) :=
  run_inv d inv_set inv_cancel inv_step evs s h

/-! ## monotone clocks: a wake-up never carries a reading from the future -/

def MonoEvs : Int → List Ev → Prop
  | _, [] => True
  | now, .advance x :: es => 0 ≤ x ∧ MonoEvs (now + x) es
  | now, .set t :: es => now ≤ t ∧ MonoEvs t es
  | now, .cancel :: es => MonoEvs now es
  | now, .tick _ :: es => MonoEvs now es

def Mono (s : St) : Prop :=
  (∀ e ∈ s.m.box, e.2 ≤ s.m.now) ∧ (∀ f ∈ s.fired, f.wake ≤ f.clock)

theorem boxle_until {m : Mock} (t : Int) (h : ∀ e ∈ m.box, e.2 ≤ m.now) :
    ∀ e ∈ (m.until t).1.box, e.2 ≤ (m.until t).1.now := by
  intro e he
  rw [until_now]
  rcases mem_until_box.mp he with he | ⟨_, rfl⟩
  · exact h e he
  · exact Int.le_refl _

theorem mono_init (d : Def) (now0 : Int) : Mono (init d now0) := by
  rw [init_eq]
  exact ⟨boxle_until (d.origin now0) nofun, nofun⟩

theorem init_now (d : Def) (now0 : Int) : (init d now0).m.now = now0 := by
  rw [init_eq]
  exact until_now _ _

theorem mono_iterate {d : Def} {s : St} {reps t : Int} (h : Mono s) : Mono (iterate d s reps t) := by
  obtain ⟨h1, h2⟩ := h
  unfold iterate; split
  · exact ⟨h1, h2⟩
  · dsimp only; split
    · exact ⟨boxle_until _ h1, h2⟩
    · exact ⟨boxle_until _ (boxle_until _ h1), h2⟩

theorem step_now {d : Def} {s s' : St} (hs : Step d s s') : s'.m.now = s.m.now := by
  cases hs with
  | start | next => exact iterate_now ..
  | _ => rfl

theorem mono_step {d : Def} {s s' : St} (h : Mono s) (hs : Step d s s') : Mono s' := by
  obtain ⟨h1, h2⟩ := h
  have htake : ∀ c, ∀ e ∈ (s.m.take c).box, e.2 ≤ s.m.now := fun c e he => h1 e (mem_take_box.mp he).1
  -- a delivered value is a clock reading of the past
  have hnew (c : Nat) (v : Int) (hv : s.m.peek c = some v) : ∀ f ∈ s.fired ++ [⟨v, s.m.now⟩], f.wake ≤ f.clock :=
    fun f hm => (List.mem_append.1 hm).elim (h2 f) fun hm => by
      cases List.mem_singleton.1 hm; exact h1 _ (peek_some hv)
  cases hs with
  | fire c v hph hv => exact ⟨htake c, hnew c v hv⟩
  | start c st hph => exact mono_iterate ⟨htake c, h2⟩
  | next reps t c ce v fired' hph hv hf =>
    refine mono_iterate ⟨htake c, ?_⟩
    rcases hf with ⟨rfl, _⟩ | ⟨rfl, _⟩
    · exact hnew c v hv
    · exact h2
  | drop | stop => exact ⟨h1, h2⟩

theorem mono_set (s : St) (t : Int) (h : Mono s) (ht : s.m.now ≤ t) :
    Mono { s with m := s.m.set t } := by
  refine ⟨fun e he => ?_, h.2⟩
  rcases mem_set_box.mp he with he | ⟨he, _⟩
  · exact Int.le_trans (h.1 e he) ht
  · exact Int.le_of_eq he

theorem mono_run (d : Def) (evs : List Ev) (s : St) (h : Mono s) (hm : MonoEvs s.m.now evs) :
    Mono (run d s evs) := by
  induction evs generalizing s with
  | nil => exact h
  | cons e es ih =>
    cases e with
    | advance x => exact ih _ (mono_set s _ h (Int.le_add_of_nonneg_right hm.1)) hm.2
    | set t => exact ih _ (mono_set s _ h hm.1) hm.2
    | cancel => exact ih _ h hm
    | tick c =>
      show Mono (run d ((step d c s).getD s) es)
      cases hs : step d c s with
      | none => exact ih _ h hm
      | some s' =>
        have hs := step_sound hs
        exact ih _ (mono_step h hs) (by rw [Option.getD_some, step_now hs]; exact hm)

end Bpmn.Lemmas.Timer
