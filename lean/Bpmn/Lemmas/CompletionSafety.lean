import Bpmn.Lemmas.Completion
/-! Safety invariants of the completion model, preserved by every choice (all schedules, all histories of calls). -/
namespace Bpmn.Model.Completion

structure Cnt (P : Params) (s : St) : Prop where
  c1 : s.sent ≤ s.fired
  c2 : s.fired ≤ s.triggered
  c3 : s.triggered + trigCount s.prog = P.n

theorem cnt_step {P : Params} {s s' : St} {c : Choice} (h : Cnt P s) (st : Step P s c s') : Cnt P s' := by
  obtain ⟨h1, h2, h3⟩ := h
  cases st with
  | trigger hp =>
    simp only [hp, trigCount, List.count_cons_self] at h3
    exact ⟨h1, Nat.le_succ_of_le h2, by rw [Nat.add_right_comm]; exact h3⟩
  | subscribe hp | lock hp | lockNoMon hp => simp [hp, trigCount] at h3; exact ⟨h1, h2, h3⟩
  | fire hg => exact ⟨Nat.le_succ_of_le h1, hg, h3⟩
  | startTrace hg => exact ⟨hg, h2, h3⟩
  | _ => exact ⟨h1, h2, h3⟩

theorem quiet_step {P : Params} {s s' : St} {c : Choice} (hc : Cnt P s) (hq : quiet P s) (st : Step P s c s') :
    quiet P s' := by
  obtain ⟨q1, q2, q3⟩ := hq
  have ht : s.triggered ≤ P.n := hc.c3 ▸ Nat.le_add_right _ _
  cases st with
  | fire hg | startTrace hg | birth hg | death hg => omega
  | _ => exact ⟨q1, q2, q3⟩

/-! ## What a monitor has counted never exceeds what the start events have reported -/

structure MonCnt (s : St) : Prop where
  cnt : ∀ k m, s.mons[k]? = some m → m.count + starts m.buf + pendFor s k ≤ s.sent
  nodup : s.subs.Nodup
  lt : ∀ k ∈ s.subs, k < s.mons.length

theorem monCnt_step {P : Params} {s s' : St} {c : Choice} (h : MonCnt s) (st : Step P s c s') : MonCnt s' := by
  obtain ⟨hc, hn, hl⟩ := h
  have hl' : ∀ {i : Nat} {a : Mon}, ∀ k ∈ s.subs, k < (s.mons.set i a).length := fun k hk => by
    rw [List.length_set]; exact hl k hk
  cases st with
  | subscribe hp hpn =>
    refine ⟨forall_getElem?_concat hc (by simp [starts, pendFor, hpn]), ?_, ?_⟩
    · exact List.nodup_append.mpr ⟨hn, by simp, fun a ha b hb => by simp at hb; have := hl a ha; omega⟩
    · intro k hk; simp at hk ⊢; rcases hk with hk | rfl
      · exact Nat.lt_succ_of_lt (hl k hk)
      · exact Nat.lt_succ_self _
  | lock _ _ hm | counted hm | wgDone hm | unlock hm =>
    exact ⟨forall_getElem?_set (fun k m _ => hc k m) (hc _ _ hm :), hn, hl'⟩
  | count hm _ _ hb | drain hm _ _ hb =>
    refine ⟨forall_getElem?_set (fun k m _ => hc k m) ?_, hn, hl'⟩
    have := hc _ _ hm; rw [hb, starts_cons] at this
    simp only [pendFor] at this ⊢; omega
  | unsub hm _ hpn =>
    refine ⟨forall_getElem?_set (fun k m _ => hc k m) ?_, swapRemove_nodup _ hn,
      fun k hk => hl' k (mem_swapRemove hk)⟩
    have := hc _ _ hm
    simp only [pendFor, starts] at this ⊢; simp; omega
  | cease hm _ hpn =>
    have e : ∀ k, pendFor s k = 0 := pendFor_none hpn
    refine ⟨forall_getElem?_set (fun k m _ hk => ?_) ?_, hn, hl'⟩
    · rw [pendFor_mkPending rfl]; have := hc k m hk; rw [e] at this; simpa [isStart] using this
    · rw [pendFor_mkPending rfl]; have := hc _ _ hm; rw [e] at this; simpa [isStart] using this
  | served hp =>
    refine ⟨fun k m hk => ?_, hn, hl⟩
    rw [pendFor_none rfl]; exact Nat.le_trans (Nat.le_add_right _ _) (hc k m hk)
  | deliver hp hm _ =>
    refine ⟨forall_getElem?_set (fun k m hne hk => ?_) ?_, hn, hl'⟩
    · have := hc k m hk
      rw [pendFor_some hp, List.count_cons_of_ne hne.symm] at this
      rw [pendFor_mkPending rfl]; exact this
    · have := hc _ _ hm
      rw [pendFor_some hp, List.count_cons_self, Nat.mul_succ] at this
      rw [pendFor_mkPending rfl, starts_append]; dsimp only; omega
  | startTrace _ hpn =>
    refine ⟨fun k m hk => ?_, hn, hl⟩
    have := hc k m hk
    rw [pendFor_none hpn] at this
    rw [pendFor_mkPending rfl, hn.count, show isStart .start = 1 from rfl, Nat.one_mul]
    dsimp only; split <;> omega
  | other _ hpn | strayTrace _ hpn =>
    refine ⟨fun k m hk => ?_, hn, hl⟩
    have := hc k m hk
    rw [pendFor_none hpn] at this
    rw [pendFor_mkPending rfl]; simpa [isStart] using this
  | _ => exact ⟨hc, hn, hl⟩

/-! ## A monitor past the wait group lives in a quiet state -/

structure MonPc (P : Params) (s : St) : Prop where
  counted : ∀ (k : Nat) (m : Mon), s.mons[k]? = some m → m.pc.counted = true → m.count = P.n
  past : ∀ (k : Nat) (m : Mon), s.mons[k]? = some m → m.pc.pastWg = true → quiet P s

theorem monPc_of {P : Params} {s : St} (h : ∀ (k : Nat) (m : Mon), s.mons[k]? = some m →
    (m.pc.counted = true → m.count = P.n) ∧ (m.pc.pastWg = true → quiet P s)) : MonPc P s :=
  ⟨fun k m hk => (h k m hk).1, fun k m hk => (h k m hk).2⟩

theorem all_sent {n cnt a b sent fired trig tc : Nat} (h0 : cnt = n) (h1 : cnt + a + b ≤ sent) (h2 : sent ≤ fired)
    (h3 : fired ≤ trig) (h4 : trig + tc = n) : fired = n ∧ sent = n := by omega

theorem monPc_step {P : Params} {s s' : St} {c : Choice} (hC : Cnt P s) (hM : MonCnt s) (h : MonPc P s)
    (st : Step P s c s') : MonPc P s' := by
  have old : ∀ (k : Nat) (m : Mon), s.mons[k]? = some m →
      (m.pc.counted = true → m.count = P.n) ∧ (m.pc.pastWg = true → quiet P s') :=
    fun k m hk => ⟨h.counted k m hk, fun hp => quiet_step hC (h.past k m hk hp) st⟩
  cases st with
  | subscribe => exact monPc_of (forall_getElem?_concat old ⟨nofun, nofun⟩)
  | lock _ _ hm => exact monPc_of (forall_getElem?_set (fun k m _ => old k m) ⟨nofun, nofun⟩)
  | counted hm _ hcn => exact monPc_of (forall_getElem?_set (fun k m _ => old k m) ⟨fun _ => hcn, nofun⟩)
  | count hm hpc => exact monPc_of (forall_getElem?_set (fun k m _ => old k m) ⟨by simp [hpc, MPc.counted], by simp [hpc, MPc.pastWg]⟩)
  | drain hm | deliver _ hm => exact monPc_of (forall_getElem?_set (fun k m _ => old k m) (old _ _ hm :))
  | unsub hm hpc =>
    exact monPc_of (forall_getElem?_set (fun k m _ => old k m) ⟨fun _ => (old _ _ hm).1 (by rw [hpc]; rfl), nofun⟩)
  | wgDone hm hpc hwg =>
    -- the monitor has counted `n` start traces, so all `n` were sent; the wait group is empty
    have hcn := h.counted _ _ hm (by rw [hpc]; rfl)
    have hq : quiet P s :=
      have ⟨a, b⟩ := all_sent hcn (hM.cnt _ _ hm) hC.c1 hC.c2 hC.c3
      ⟨a, b, hwg⟩
    exact monPc_of (forall_getElem?_set (fun k m _ => old k m) ⟨nofun, fun _ => hq⟩)
  | cease hm hpc | unlock hm hpc =>
    exact monPc_of (forall_getElem?_set (fun k m _ => old k m) ⟨nofun, fun _ => (old _ _ hm).2 (by rw [hpc]; rfl)⟩)
  | _ => exact monPc_of old

structure LockInv (s : St) : Prop where
  mon : ∀ (k : Nat) (m : Mon), s.mons[k]? = some m → m.pc.holds = true → s.lock = some (.mon k)
  helper : ∀ (w : Nat) (x : Wait), s.waits[w]? = some x → x.helper = .holding → s.lock = some (.helper w)
  /-- only the monitor whose creation is under way (between `Subscribe` and `Lock`) has no goroutine yet -/
  want : ∀ (k : Nat) (m : Mon), s.mons[k]? = some m →
      (m.pc = .wantLock ↔ (s.prog.head? = some .lock ∧ k + 1 = s.mons.length))
  wfp : wf s.prog = true ∨ ∃ r, s.prog = .lock :: r ∧ wf r = true ∧ s.mons ≠ []
  some : 1 ≤ s.mons.length + subCount s.prog

theorem wf_lock_false (r : List SI) : wf (.lock :: r) = false := by simp [wf]

theorem head?_ne_lock_of_wf {r : List SI} (h : wf r = true) : r.head? ≠ some .lock := by
  cases r with
  | nil => simp
  | cons a r => intro e; simp at e; subst e; simp [wf] at h

theorem wf_subscribe {r : List SI} (h : wf (.subscribe :: r) = true) : ∃ r', r = .lock :: r' ∧ wf r' = true := by
  match r, h with
  | .lock :: r', h => exact ⟨r', rfl, by simpa [wf] using h⟩

theorem want_of_not_lock {s : St} (hne : s.prog.head? ≠ some .lock)
    (h : ∀ (k : Nat) (m : Mon), s.mons[k]? = some m → m.pc ≠ .wantLock) (k : Nat) (m : Mon) (hk : s.mons[k]? = some m) :
    m.pc = .wantLock ↔ (s.prog.head? = some .lock ∧ k + 1 = s.mons.length) :=
  ⟨fun e => absurd e (h k m hk), fun e => absurd e.1 hne⟩

theorem lockInv_lastMon {s : St} (h : LockInv s) {r : List SI} (hp : s.prog = .lock :: r) :
    ∃ m, s.mons[s.mons.length - 1]? = some m := by
  rcases h.wfp with hw | ⟨_, _, _, hne⟩
  · rw [hp, wf_lock_false] at hw; cases hw
  · exact ⟨s.mons[s.mons.length - 1]'(by have := List.length_pos_iff.mpr hne; omega), List.getElem?_eq_getElem _⟩

theorem monsLen_step {P : Params} {s s' : St} {c : Choice} (st : Step P s c s') :
    s'.mons.length + subCount s'.prog = s.mons.length + subCount s.prog := by
  cases st with
  | trigger hp | lockNoMon hp => rw [hp]; rfl
  | lock hp => rw [hp, List.length_set]; rfl
  | subscribe hp => simp [hp, subCount]; omega
  | counted | count | unsub | drain | wgDone | cease | unlock | deliver => rw [List.length_set]
  | _ => rfl

theorem lockInv_setMon {s s' : St} (h : LockInv s) {k : Nat} {m m' : Mon} (hm : s.mons[k]? = some m)
    (e1 : s'.mons = s.mons.set k m') (e2 : s'.lock = s.lock) (e3 : s'.waits = s.waits) (e4 : s'.prog = s.prog)
    (hh : m'.pc.holds = true → m.pc.holds = true) (hw : m'.pc = .wantLock ↔ m.pc = .wantLock) : LockInv s' := by
  refine ⟨?_, by rw [e2, e3]; exact h.helper, ?_, ?_, by rw [e1, e4, List.length_set]; exact h.some⟩
  · rw [e1, e2]; exact forall_getElem?_set (fun k m _ => h.mon k m) (fun hold => h.mon _ _ hm (hh hold))
  · rw [e1, e4, List.length_set]; exact forall_getElem?_set (fun k m _ => h.want k m) (hw.trans (h.want _ _ hm))
  · rw [e4, e1]; exact h.wfp.imp_right fun ⟨r, e, w, ne⟩ => ⟨r, e, w, by rwa [Ne, List.set_eq_nil_iff]⟩

theorem lockInv_step {P : Params} {s s' : St} {c : Choice} (h : LockInv s) (st : Step P s c s') : LockInv s' := by
  have hlen := monsLen_step st
  have ⟨hm, hh, hw, hp, hs⟩ := h
  cases st with
  | @trigger r hpr =>
    have hwr : wf r = true := by
      rcases hp with hp | ⟨_, e, _⟩
      · simpa [hpr, wf] using hp
      · simp [hpr] at e
    refine ⟨hm, hh, want_of_not_lock (head?_ne_lock_of_wf hwr) (fun k m hk e => ?_), .inl hwr, hlen ▸ hs⟩
    have := ((hw k m hk).mp e).1; rw [hpr] at this; cases this
  | @subscribe r hpr =>
    obtain ⟨r', rfl, hwr'⟩ : ∃ r', r = .lock :: r' ∧ wf r' = true := by
      rcases hp with hp | ⟨_, e, _⟩
      · exact wf_subscribe (by simpa [hpr] using hp)
      · simp [hpr] at e
    refine ⟨forall_getElem?_concat hm nofun, hh, ?_, .inr ⟨r', rfl, hwr', by simp⟩, hlen ▸ hs⟩
    refine forall_getElem?_concat (fun k m hk => ?_) (by simp)
    have := hw k m hk
    have hlt := (List.getElem?_eq_some_iff.mp hk).1
    simp only [hpr, List.head?_cons, Option.some.injEq, reduceCtorEq, false_and, iff_false] at this
    simp [this, Nat.ne_of_lt hlt]
  | @lock r _ hpr hln hml =>
    have hwr : wf r = true := by
      rcases hp with hp | ⟨_, e, h1, _⟩
      · simp [hpr, wf] at hp
      · simp [hpr] at e; subst e; exact h1
    refine ⟨?_, fun w x hk hold => by have := hh w x hk hold; simp [hln] at this, ?_, .inl hwr, hlen ▸ hs⟩
    · exact forall_getElem?_set (fun k m _ hk hold => by have := hm k m hk hold; simp [hln] at this) (fun _ => rfl)
    · exact want_of_not_lock (head?_ne_lock_of_wf hwr) (forall_getElem?_set
        (fun k m hne hk e => hne (Nat.eq_sub_of_add_eq ((hw k m hk).mp e).2)) nofun)
  | lockNoMon hpr _ hml => rw [(lockInv_lastMon h hpr).choose_spec] at hml; cases hml
  | counted hk hpc | unsub hk hpc | wgDone hk hpc | cease hk hpc =>
    exact lockInv_setMon h hk rfl rfl rfl rfl (fun _ => by rw [hpc]; rfl) (by simp [hpc])
  | count hk | drain hk | deliver _ hk =>
    exact lockInv_setMon h hk rfl rfl rfl rfl (fun h => h) Iff.rfl
  | @unlock k _ hk hpc =>
    have hl : s.lock = some (.mon k) := hm _ _ hk (by rw [hpc]; rfl)
    refine ⟨?_, fun w x hx hold => by have := hh w x hx hold; simp [hl] at this, ?_,
      hp.imp_right fun ⟨r, e, w, ne⟩ => ⟨r, e, w, by rwa [Ne, List.set_eq_nil_iff]⟩, hlen ▸ hs⟩
    · refine forall_getElem?_set (fun k' m' hne hk' hold => ?_) nofun
      have := hm k' m' hk' hold
      rw [hl] at this; cases this; exact absurd rfl hne
    · rw [List.length_set]
      exact forall_getElem?_set (fun k m _ => hw k m)
        ⟨nofun, fun e => by have := (hw _ _ hk).mpr e; rw [hpc] at this; cases this⟩
  | helperLock hx _ hln =>
    refine ⟨fun k m hk hold => by have := hm k m hk hold; simp [hln] at this, ?_, hw, hp, hs⟩
    exact forall_getElem?_set (fun w x _ hk hold => by have := hh w x hk hold; simp [hln] at this) (fun _ => rfl)
  | @signal w _ hx hho | @handOver w _ hx hho =>
    have hl : s.lock = some (.helper w) := hh _ _ hx hho
    refine ⟨fun k m hk hold => by have := hm k m hk hold; simp [hl] at this, ?_, hw, hp, hs⟩
    refine forall_getElem?_set (fun w' x' hne hk hold => ?_) nofun
    have := hh w' x' hk hold
    rw [hl] at this; simp at this; exact absurd this.symm hne
  | recv hx | expire hx =>
    exact ⟨hm, forall_getElem?_set (fun w x _ => hh w x) (hh _ _ hx :), hw, hp, hs⟩
  | call => exact ⟨hm, forall_getElem?_concat hh nofun, hw, hp, hs⟩
  | _ => exact ⟨hm, hh, hw, hp, hs⟩

/-! ## The log: one cease trace per monitor that got that far, and nothing but cease traces after the first -/

structure LogInv (s : St) : Prop where
  cnt : ceases s = s.mons.countP (fun m => m.pc.pastCease)
  ok : LogOk s.log

theorem quiet_of_cease {P : Params} {s : St} (hL : LogInv s) (hP : MonPc P s) (h : Trace.cease ∈ s.log) : quiet P s := by
  have h1 : 0 < ceases s := List.count_pos_iff.mpr h
  rw [hL.cnt] at h1
  obtain ⟨m, hm, hp⟩ := List.countP_pos_iff.mp h1
  obtain ⟨k, hk⟩ := List.getElem?_of_mem hm
  exact hP.past k m hk (by cases hpc : m.pc <;> rw [hpc] at hp <;> first | rfl | cases hp)

theorem logInv_step {P : Params} {s s' : St} {c : Choice} (hP : MonPc P s) (hK : LockInv s) (h : LogInv s)
    (st : Step P s c s') : LogInv s' := by
  obtain ⟨h1, h2⟩ := h
  -- a monitor's step that does not cross the cease
  have same : ∀ {k : Nat} {m m' : Mon}, s.mons[k]? = some m → m'.pc.pastCease = m.pc.pastCease →
      ceases s = (s.mons.set k m').countP (fun m => m.pc.pastCease) := by
    intro k m m' hm e
    have := countP_set (fun m => m.pc.pastCease) hm (a := m')
    rw [e] at this; exact h1.trans (Nat.add_right_cancel this).symm
  cases st with
  | subscribe => exact ⟨by simpa [ceases, MPc.pastCease] using h1, h2⟩
  | @lock r m hpr _ hm =>
    have hpc : m.pc = .wantLock :=
      (hK.want _ m hm).mpr ⟨by rw [hpr]; rfl, by have := (List.getElem?_eq_some_iff.mp hm).1; omega⟩
    exact ⟨same hm (by rw [hpc]; rfl), h2⟩
  | counted hm hpc | unsub hm hpc | wgDone hm hpc | unlock hm hpc => exact ⟨same hm (by rw [hpc]; rfl), h2⟩
  | count hm | drain hm | deliver _ hm => exact ⟨same hm rfl, h2⟩
  | @cease k m hm hpc =>
    refine ⟨?_, fun _ => .inl rfl, h2⟩
    have e : m.pc.pastCease = false := by rw [hpc]; rfl
    have := countP_set (fun m => m.pc.pastCease) hm (a := { m with pc := .unlocking })
    rw [e] at this
    have this : _ + 0 = _ + 1 := this
    simp only [ceases, List.count_cons_self] at h1 ⊢; omega
  | startTrace hg =>
    refine ⟨by simpa [ceases] using h1, fun hce => ?_, h2⟩
    have hq := quiet_of_cease ⟨h1, h2⟩ hP hce
    rw [hq.1, hq.2.1] at hg; exact absurd hg (Nat.lt_irrefl _)
  | other hg =>
    refine ⟨by simpa [ceases] using h1, fun hce => ?_, h2⟩
    rw [(quiet_of_cease ⟨h1, h2⟩ hP hce).2.2] at hg; exact absurd hg (Nat.lt_irrefl _)
  | strayTrace => exact ⟨by simpa [ceases] using h1, fun _ => .inr rfl, h2⟩
  | _ => exact ⟨h1, h2⟩

structure WaitOk (s : St) (x : Wait) : Prop where
  early : x.early = false → s.prog = []
  cease : x.early = false → x.helper ≠ .wantLock → Trace.cease ∈ s.log
  done : x.caller = .gotTrue ∨ x.sig = true → x.helper = .done

def WaitInv (s : St) : Prop := ∀ x ∈ s.waits, WaitOk s x

theorem log_mono {P : Params} {s s' : St} {c : Choice} (st : Step P s c s') {t : Trace} (h : t ∈ s.log) :
    t ∈ s'.log := by
  cases st with
  | cease | startTrace | other | strayTrace => exact List.mem_cons_of_mem _ h
  | _ => exact h

theorem prog_nil_stable {P : Params} {s s' : St} {c : Choice} (st : Step P s c s') (h : s.prog = []) :
    s'.prog = [] := by
  cases st with
  | trigger hp | subscribe hp | lock hp | lockNoMon hp => rw [hp] at h; cases h
  | _ => exact h

theorem cease_of_lock_free {s : St} (hK : LockInv s) (hL : LogInv s) (hp : s.prog = []) (hl : s.lock = none) :
    Trace.cease ∈ s.log := by
  have hlen : 0 < s.mons.length := by have := hK.some; simp [hp, subCount] at this; omega
  obtain ⟨m, hm⟩ : ∃ m, s.mons[0]? = some m := ⟨s.mons[0], by simp⟩
  have h1 : m.pc ≠ .wantLock := by
    intro h; have := (hK.want 0 m hm).mp h; simp [hp] at this
  have h2 : m.pc.holds = false := by
    cases hh : m.pc.holds with
    | false => rfl
    | true => have := hK.mon 0 m hm hh; rw [hl] at this; cases this
  have h3 : m.pc.pastCease = true := by
    cases hpc : m.pc <;> rw [hpc] at h1 h2 <;> first | rfl | exact absurd rfl h1 | cases h2
  have : 0 < ceases s := by
    rw [hL.cnt]; exact List.countP_pos_iff.mpr ⟨m, List.mem_of_getElem? hm, h3⟩
  exact List.count_pos_iff.mp this

theorem waitInv_step {P : Params} {s s' : St} {c : Choice} (hK : LockInv s) (hL : LogInv s) (h : WaitInv s)
    (st : Step P s c s') : WaitInv s' := by
  have old : ∀ x ∈ s.waits, WaitOk s' x := fun x hx =>
    ⟨fun he => prog_nil_stable st ((h x hx).early he), fun he hh => log_mono st ((h x hx).cease he hh), (h x hx).done⟩
  cases st with
  | @helperLock w x hx hh hl =>
    have ox := old x (List.mem_of_getElem? hx)
    exact forall_mem_set old ⟨ox.early, fun he _ => (cease_of_lock_free hK hL ((h x (List.mem_of_getElem? hx)).early he) hl :),
      fun hd => by have := ox.done hd; simp [hh] at this⟩
  | @signal w x hx hh | @handOver w x hx hh =>
    have ox := old x (List.mem_of_getElem? hx)
    exact forall_mem_set old ⟨ox.early, fun he _ => ox.cease he (by simp [hh]), fun _ => rfl⟩
  | @recv w x hx _ hsig =>
    have ox := old x (List.mem_of_getElem? hx)
    exact forall_mem_set old ⟨ox.early, ox.cease, fun _ => ox.done (.inr hsig)⟩
  | @expire w x hx =>
    have ox := old x (List.mem_of_getElem? hx)
    exact forall_mem_set old ⟨ox.early, ox.cease, fun hd => ox.done (.inr (by simpa using hd))⟩
  | call => exact forall_mem_concat old ⟨by simp, fun _ hh => absurd rfl hh, by simp⟩
  | _ => exact old

theorem trigCount_programFrom (P : Params) (i k : Nat) : trigCount (programFrom P i k) = k := by
  induction k generalizing i with
  | zero => rfl
  | succ k ih =>
    have h1 : trigCount (startWith P (P.perStart || i == 0)) = 1 := by
      unfold startWith; cases (P.perStart || i == 0) <;> cases P.subBefore <;> rfl
    simp only [trigCount, programFrom, startWithAt, List.count_append] at *
    rw [h1, ih]; omega

theorem wf_startWith_append (P : Params) (b : Bool) (r : List SI) : wf (startWith P b ++ r) = wf r := by
  unfold startWith; cases b <;> cases P.subBefore <;> rfl

theorem wf_programFrom (P : Params) (i k : Nat) : wf (programFrom P i k) = true := by
  induction k generalizing i with
  | zero => rfl
  | succ k ih => simp only [programFrom, startWithAt, wf_startWith_append]; exact ih (i + 1)

theorem subCount_programFrom (P : Params) (i k : Nat) :
    subCount (programFrom P i k) = if P.perStart then k else (if i = 0 then min k 1 else 0) := by
  induction k generalizing i with
  | zero => simp [programFrom, subCount]
  | succ k ih =>
    have h := ih (i + 1)
    simp only [subCount, programFrom, startWithAt, List.count_append] at h ⊢
    rw [h]
    cases hps : P.perStart <;> cases hsb : P.subBefore <;> by_cases hi : i = 0 <;>
      simp [startWith, hsb, hi] <;> omega

theorem subCount_program_eq (P : Params) (hn : 1 ≤ P.n) : subCount (program P) = P.monitorsPerStartAll := by
  unfold program Params.monitorsPerStartAll
  rw [subCount_programFrom]
  cases P.perStart <;> simp <;> omega

structure Inv (P : Params) (s : St) : Prop where
  cnt : Cnt P s
  mon : MonCnt s
  pc : MonPc P s
  lock : LockInv s
  log : LogInv s
  wait : WaitInv s

theorem inv_init (P : Params) (hn : 1 ≤ P.n) : Inv P (init P) := by
  have h1 := trigCount_programFrom P 0 P.n
  have h2 := wf_programFrom P 0 P.n
  have h3 : 1 ≤ subCount (program P) := by
    rw [subCount_program_eq P hn]; unfold Params.monitorsPerStartAll; split <;> omega
  refine ⟨⟨?_, ?_, ?_⟩, ⟨?_, ?_, ?_⟩, ⟨?_, ?_⟩, ⟨?_, ?_, ?_, ?_, ?_⟩, ⟨?_, ?_⟩, ?_⟩ <;>
    simp [init, program, h1, h2, ceases, LogOk, WaitInv] <;> exact h3

theorem inv_Step {P : Params} {s s' : St} {c : Choice} (h : Inv P s) (st : Step P s c s') : Inv P s' :=
  ⟨cnt_step h.cnt st, monCnt_step h.mon st, monPc_step h.cnt h.mon h.pc st, lockInv_step h.lock st,
   logInv_step h.pc h.lock h.log st, waitInv_step h.lock h.log h.wait st⟩

theorem inv_step {P : Params} {s : St} (h : Inv P s) (c : Choice) : Inv P (step P s c) :=
  step_preserves (inv_Step h) h c

theorem inv_reachable {P : Params} (hn : 1 ≤ P.n) {s : St} (h : Reachable P s) : Inv P s := by
  obtain ⟨sched, rfl⟩ := h
  exact run_preserves (I := Inv P) (fun _ c h => inv_step h c) (inv_init P hn) sched

theorem inv_run_preserves {P : Params} {J : St → Prop} (hJ : ∀ {s c s'}, Inv P s → J s → Step P s c s' → J s')
    {s : St} (I : Inv P s) (h : J s) (sched : List Choice) : J (run P s sched) :=
  (run_preserves (I := fun s => Inv P s ∧ J s)
    (fun _ c h => step_preserves (I := fun s => Inv P s ∧ J s) (fun st => ⟨inv_Step h.1 st, hJ h.1 h.2 st⟩) h c)
    ⟨I, h⟩ sched).2

theorem reachable_step {P : Params} {s : St} (h : Reachable P s) (c : Choice) : Reachable P (step P s c) := by
  obtain ⟨sched, rfl⟩ := h
  exact ⟨sched ++ [c], run_append P _ sched [c]⟩

theorem reachable_run {P : Params} {s : St} (h : Reachable P s) (sched : List Choice) : Reachable P (run P s sched) := by
  obtain ⟨s0, rfl⟩ := h
  exact ⟨s0 ++ sched, run_append P _ s0 sched⟩

theorem monsLen_reachable {P : Params} (hn : 1 ≤ P.n) {s : St} (h : Reachable P s) :
    s.mons.length + subCount s.prog = P.monitorsPerStartAll := by
  obtain ⟨sched, rfl⟩ := h
  refine run_preserves (I := fun s => s.mons.length + subCount s.prog = _) (fun s c h => ?_) ?_ sched
  · exact step_preserves (fun st => (monsLen_step st).trans h) h c
  · simp [init, subCount_program_eq P hn]

/-! ## Without detached senders every trace comes from a live token or a monitor -/

def NoStray (s : St) : Prop := s.strays = 0 ∧ Trace.stray ∉ s.log

theorem noStray_step {P : Params} (hd : P.detached = false) {s s' : St} {c : Choice} (h : NoStray s)
    (st : Step P s c s') : NoStray s' := by
  obtain ⟨h1, h2⟩ := h
  cases st with
  | spawnStray hd' => rw [hd] at hd'; cases hd'
  | strayTrace hg => rw [h1] at hg; cases hg
  | cease | startTrace | other => exact ⟨h1, by simpa using h2⟩
  | _ => exact ⟨h1, h2⟩

theorem noStray_reachable {P : Params} (hd : P.detached = false) {s : St} (h : Reachable P s) : NoStray s := by
  obtain ⟨sched, rfl⟩ := h
  exact run_preserves (I := NoStray) (fun s c h => step_preserves (noStray_step hd h) h c) ⟨rfl, by simp [init]⟩ sched

def LogStrict : List Trace → Prop
  | [] => True
  | t :: r => (Trace.cease ∈ r → t = .cease) ∧ LogStrict r

theorem logStrict_of {l : List Trace} (h : LogOk l) (hs : Trace.stray ∉ l) : LogStrict l := by
  induction l with
  | nil => trivial
  | cons t r ih =>
    simp only [List.mem_cons, not_or] at hs
    refine ⟨fun hc => ?_, ih h.2 hs.2⟩
    rcases h.1 hc with e | e
    · exact e
    · exact absurd e.symm hs.1

end Bpmn.Model.Completion
