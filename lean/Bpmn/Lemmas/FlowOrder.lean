import Bpmn.Model.FlowOrder
import Bpmn.Lemmas.Tracer
/-! Invariant of the flow-sending model: the scan state of the causality grammar over the log so far is tied to the
phases of the flow goroutines, so no step can produce a violation. -/
namespace Bpmn.Model.FlowOrder
open Bpmn.Spec
open Bpmn.Model.Tracer (sumTo sumTo_succ sumTo_congr sumTo_update)

theorem scan_snoc (s : Scan) (l : List Trace) (t : Trace) :
    scan s (l ++ [t]) = match scan s l with
      | .ok s' => scanStep s' t
      | .error v => .error v := by
  induction l generalizing s with
  | nil =>
    simp only [List.nil_append, scan]
    cases scanStep s t <;> rfl
  | cons a l ih =>
    simp only [List.cons_append, scan]
    cases scanStep s a with
    | error v => rfl
    | ok s' => exact ih s'

/-- the node a flow is inside (visited, not left) -/
def cur : Phase → Option Nat
  | .at n => some n
  | .arrived _ n' _ => some n'
  | _ => none

/-- the flow has sent its `NewFlowTrace` -/
def sent : Phase → Bool
  | .none_ | .born _ => false
  | _ => true

def cntAt (s : FSt) (n : Nat) : Nat := sumTo s.nflow (fun f => if cur (s.phase f) = some n then 1 else 0)

/-- The scan state of the grammar against the phases. `inside` (the unmatched visits) covers the flows now at a node;
`≤`, since a flow that ends at a node leaves its visit unmatched. `alloc`: ids from `nflow` on are unused; `quiet`: the
cease trace is sent when every flow is dead. -/
structure FInv (s : FSt) (sc : Scan) : Prop where
  started : ∀ f, f ∈ sc.started ↔ sent (s.phase f) = true
  termd : ∀ f, f ∈ sc.termd → s.phase f = .dead
  alloc : ∀ f, s.nflow ≤ f → s.phase f = .none_
  inside : ∀ n, cntAt s n ≤ sc.inside.count n
  ceased : sc.ceased = s.ceased
  quiet : s.ceased = true → ∀ f, f < s.nflow → s.phase f = .dead

def Good (s : FSt) : Prop := ∃ sc, scan {} s.log = .ok sc ∧ FInv s sc

theorem good_init : Good finit := by
  refine ⟨{}, rfl, ?_⟩
  constructor <;> simp [finit, sent, cntAt, sumTo]

@[simp] theorem setPhase_phase (s : FSt) (f : Nat) (p : Phase) (j : Nat) :
    (s.setPhase f p).phase j = if j = f then p else s.phase j := rfl
@[simp] theorem setPhase_nflow (s : FSt) (f : Nat) (p : Phase) : (s.setPhase f p).nflow = s.nflow := rfl
@[simp] theorem setPhase_log (s : FSt) (f : Nat) (p : Phase) : (s.setPhase f p).log = s.log := rfl
@[simp] theorem setPhase_ceased (s : FSt) (f : Nat) (p : Phase) : (s.setPhase f p).ceased = s.ceased := rfl

theorem cntAt_setPhase (s : FSt) (f : Nat) (p : Phase) (hf : f < s.nflow) (n : Nat) :
    cntAt (s.setPhase f p) n + (if cur (s.phase f) = some n then 1 else 0) =
    cntAt s n + (if cur p = some n then 1 else 0) := by
  have := sumTo_update (n := s.nflow) (c := f)
    (w := fun j => if cur (s.phase j) = some n then 1 else 0)
    (w' := fun j => if cur ((s.setPhase f p).phase j) = some n then 1 else 0) hf
    (by intro j hj; simp [hj])
  simpa [cntAt] using this

theorem cntAt_congr {s s' : FSt} (h1 : s'.phase = s.phase) (h2 : s'.nflow = s.nflow) (n : Nat) :
    cntAt s' n = cntAt s n := by unfold cntAt; rw [h1, h2]

theorem FInv.live {s : FSt} {sc : Scan} (h : FInv s sc) {f : Nat} {p : Phase} (hp : s.phase f = p) (h1 : p ≠ .none_)
    (h2 : p ≠ .dead) : f < s.nflow ∧ f ∉ sc.termd ∧ s.ceased = false ∧ sc.ceased = false := by
  subst hp
  have hf : f < s.nflow := Nat.lt_of_not_le fun hle => h1 (h.alloc f hle)
  have hc : s.ceased = false := Bool.eq_false_iff.mpr fun hc => h2 (h.quiet hc f hf)
  exact ⟨hf, fun e => h2 (h.termd f e), hc, h.ceased.trans hc⟩

theorem finv_born {s : FSt} {sc : Scan} (h : FInv s sc) (hc : s.ceased = false) (n : Nat) :
    FInv { s.setPhase s.nflow (.born n) with nflow := s.nflow + 1 } sc := by
  have hnone : s.phase s.nflow = .none_ := h.alloc _ (Nat.le_refl _)
  refine ⟨fun j => ?_, fun j hj => ?_, fun j hj => ?_, fun m => ?_, h.ceased, fun hc' => nomatch hc.symm.trans hc'⟩
  · show j ∈ sc.started ↔ sent (if j = s.nflow then .born n else s.phase j) = true
    rw [h.started]; split
    · next e => rw [e, hnone]; exact Iff.rfl
    · rfl
  · show (if j = s.nflow then Phase.born n else s.phase j) = .dead
    have hne : j ≠ s.nflow := fun e => by have := h.termd j hj; rw [e, hnone] at this; cases this
    rw [if_neg hne]; exact h.termd j hj
  · show (if j = s.nflow then Phase.born n else s.phase j) = .none_
    have hj' : s.nflow + 1 ≤ j := hj
    rw [if_neg (by omega)]; exact h.alloc j (by omega)
  · refine Nat.le_trans (Nat.le_of_eq ?_) (h.inside m)
    show sumTo (s.nflow + 1) _ = _
    rw [sumTo_succ, show (s.setPhase s.nflow (.born n)).phase s.nflow = .born n from if_pos rfl]
    exact sumTo_congr fun j hj => by rw [show (s.setPhase s.nflow (.born n)).phase j = s.phase j from if_neg (by omega)]

theorem spawn_log (ts : List Nat) : ∀ s : FSt, (s.spawn ts).log = s.log := by
  induction ts with
  | nil => exact fun _ => rfl
  | cons t ts ih => exact fun s => ih _

theorem finv_spawn {sc : Scan} (ts : List Nat) : ∀ s : FSt, FInv s sc → s.ceased = false → FInv (s.spawn ts) sc := by
  induction ts with
  | nil => exact fun _ h _ => h
  | cons t ts ih => exact fun s h hc => ih _ (finv_born h hc t) hc

theorem inside_step {s : FSt} {f : Nat} (hf : f < s.nflow) (p : Phase) {l l' : List Nat}
    (h : ∀ m, cntAt s m ≤ l.count m)
    (hl : ∀ m, l.count m + (if cur p = some m then 1 else 0) ≤
      l'.count m + (if cur (s.phase f) = some m then 1 else 0)) (m : Nat) :
    cntAt (s.setPhase f p) m ≤ l'.count m := by
  have := cntAt_setPhase s f p hf m
  have := h m
  have := hl m
  omega

/-- A live flow `f`, in phase `p`, sends `t`, which the grammar accepts, and goes on to phase `p'`: the invariant follows
from how the scan state changed. -/
theorem good_send {s : FSt} {sc sc' : Scan} (hscan : scan {} s.log = .ok sc) (h : FInv s sc) {f : Nat} {p p' : Phase}
    {t : Trace} (hp : s.phase f = p) (hf : p ≠ .none_) (hnd : p ≠ .dead)
    (hstep : f ∉ sc.termd → sc.ceased = false → scanStep sc t = .ok sc')
    (hstarted : sc'.started = sc.started ∧ sent p' = sent p ∨ sc'.started = f :: sc.started ∧ sent p' = true)
    (htermd : sc'.termd = sc.termd ∨ sc'.termd = f :: sc.termd ∧ p' = .dead)
    (hinside : ∀ m, sc.inside.count m + (if cur p' = some m then 1 else 0) ≤
      sc'.inside.count m + (if cur p = some m then 1 else 0))
    (hceased : sc'.ceased = sc.ceased) :
    Good ({ s.setPhase f p' with log := s.log ++ [t] } : FSt) := by
  obtain ⟨hfn, hnt, hnc, hnc'⟩ := h.live hp hf hnd
  subst hp
  refine ⟨sc', by rw [scan_snoc, hscan]; exact hstep hnt hnc', fun j => ?_, fun j hj => ?_, fun j hj => ?_,
    inside_step hfn p' h.inside hinside, hceased.trans h.ceased, fun hc => nomatch hnc.symm.trans hc⟩
  · show _ ↔ sent (if j = f then p' else s.phase j) = true
    split
    · next e =>
      subst e
      rcases hstarted with ⟨e1, e2⟩ | ⟨e1, e2⟩
      · rw [e1, e2]; exact h.started j
      · rw [e1, e2]; exact iff_of_true (List.mem_cons_self ..) rfl
    · next e =>
      rcases hstarted with ⟨e1, _⟩ | ⟨e1, _⟩ <;> rw [e1]
      · exact h.started j
      · exact (List.mem_cons.trans (or_iff_right e)).trans (h.started j)
  · show (if j = f then p' else s.phase j) = .dead
    split
    · next e =>
      subst e
      rcases htermd with e1 | ⟨_, e2⟩
      · exact absurd (h.termd j (e1 ▸ hj)) hnd
      · exact e2
    · next e =>
      refine h.termd j ?_
      rcases htermd with e1 | ⟨e1, _⟩ <;> rw [e1] at hj
      · exact hj
      · exact (List.mem_cons.mp hj).resolve_left e
  · show (if j = f then p' else s.phase j) = .none_
    have hj' : s.nflow ≤ j := hj
    rw [if_neg (by omega)]; exact h.alloc j hj'

theorem good_step {s s' : FSt} {a : FAct} (hg : Good s) (hs : fstep s a = some s') : Good s' := by
  obtain ⟨sc, hscan, h⟩ := hg
  have hother : scanStep sc .other = .ok sc := by simp [scanStep, Trace.isFlowTrace]
  cases a <;> simp only [fstep] at hs
  case root n =>
    split at hs <;> cases hs
    exact ⟨sc, hscan, finv_born h (Bool.eq_false_iff.mpr ‹_›) n⟩
  case send f =>
    split at hs <;> cases hs
    · -- born n → `NewFlowTrace`
      next hp =>
      exact good_send hscan h hp nofun nofun (sc' := { sc with started := f :: sc.started })
        (hstep := fun hnt hnc => by simp [scanStep, hnc, hnt]) (hstarted := .inr ⟨rfl, rfl⟩) (htermd := .inl rfl)
        (hinside := fun m => by simp [cur]) (hceased := rfl)
    · -- fresh n → `VisitTrace n`
      next n hp =>
      exact good_send hscan h hp nofun nofun (sc' := { sc with inside := n :: sc.inside })
        (hstep := fun _ hnc => by simp [scanStep, hnc]) (hstarted := .inl ⟨rfl, rfl⟩) (htermd := .inl rfl)
        (hinside := fun m => by by_cases e : n = m <;> simp [cur, e]) (hceased := rfl)
    · -- moved n n' ts → `VisitTrace n'`
      next n n' ts hp =>
      exact good_send hscan h hp nofun nofun (sc' := { sc with inside := n' :: sc.inside })
        (hstep := fun _ hnc => by simp [scanStep, hnc]) (hstarted := .inl ⟨rfl, rfl⟩) (htermd := .inl rfl)
        (hinside := fun m => by by_cases e : n' = m <;> simp [cur, e]) (hceased := rfl)
    · -- arrived n n' ts → `FlowTrace`, and only then the announced flows are started
      next n n' ts hp =>
      obtain ⟨_, _, hnc', _⟩ := h.live hp nofun nofun
      have hst : f ∈ sc.started := by rw [h.started, hp]; rfl
      have hnew : ((List.range ts.length).map (· + s.nflow)).find? (fun g => decide (g ∈ sc.started)) = none := by
        rw [List.find?_eq_none]
        intro g hg
        simp only [List.mem_map, List.mem_range] at hg
        obtain ⟨k, _, rfl⟩ := hg
        simp [h.started, h.alloc _ (Nat.le_add_left s.nflow k), sent]
      obtain ⟨sc', e1, e2⟩ := good_send (p' := .at n') hscan h hp nofun nofun (sc' := sc)
        (t := .flow n (f :: (List.range ts.length).map (· + s.nflow)))
        (hstep := fun hnt hnc => by simp only [scanStep, hnc, Bool.false_and]; simp [hnt, hst, hnew])
        (hstarted := .inl ⟨rfl, rfl⟩) (htermd := .inl rfl) (hinside := fun m => by simp [cur]) (hceased := rfl)
      exact ⟨sc', by rw [spawn_log]; exact e1, finv_spawn ts _ e2 hnc'⟩
  case move f n' ts =>
    split at hs <;> cases hs
    next n hp =>
    obtain ⟨hfn, _⟩ := h.live hp nofun nofun
    -- the flow itself is counted at `n`, so the monitor has an unmatched visit of `n`
    have hmem : n ∈ sc.inside := by
      have h1 := cntAt_setPhase s f .dead hfn n
      have h2 := h.inside n
      simp [hp, cur] at h1
      exact List.count_pos_iff.mp (by omega)
    refine good_send hscan h hp nofun nofun (sc' := { sc with inside := sc.inside.erase n })
      (hstep := fun _ hnc => by simp [scanStep, hnc, hmem]) (hstarted := .inl ⟨rfl, rfl⟩) (htermd := .inl rfl)
      (hinside := fun m => ?_) (hceased := rfl)
    by_cases e : n = m
    · subst e; simp [cur, List.count_erase_self]; omega
    · simp [cur, e, List.count_erase_of_ne (Ne.symm e)]
  case term f | die f =>
    split at hs <;> cases hs
    next n hp =>
    have hst : f ∈ sc.started := by rw [h.started, hp]; rfl
    exact good_send hscan h hp nofun nofun (sc' := { sc with termd := f :: sc.termd })
      (hstep := fun hnt hnc => by simp [scanStep, hnc, hnt, hst]) (hstarted := .inl ⟨rfl, rfl⟩)
      (htermd := .inr ⟨rfl, rfl⟩) (hinside := fun m => by simp [cur]) (hceased := rfl)
  case quit f =>
    split at hs <;> cases hs
    next n hp =>
    exact good_send hscan h hp nofun nofun (hstep := fun _ _ => hother) (hstarted := .inl ⟨rfl, rfl⟩) (htermd := .inl rfl)
      (hinside := fun m => by simp [cur]) (hceased := rfl)
  case other =>
    cases hs
    exact ⟨sc, by rw [scan_snoc, hscan]; exact hother, h.started, h.termd, h.alloc, h.inside, h.ceased, h.quiet⟩
  case cease =>
    split at hs <;> cases hs
    next hc =>
    simp only [Bool.and_eq_true, Bool.not_eq_true'] at hc
    refine ⟨{ sc with ceased := true }, by rw [scan_snoc, hscan]; simp [scanStep, Trace.isFlowTrace],
      h.started, h.termd, h.alloc, h.inside, rfl, fun _ j hj => ?_⟩
    simpa using List.all_eq_true.mp hc.2 j (List.mem_range.mpr hj)

theorem good_run (sched : List FAct) : ∀ s, Good s → Good (frun s sched) := by
  induction sched with
  | nil => intro s h; exact h
  | cons a l ih =>
    intro s h
    show Good (frun (fstep' s a) l)
    apply ih
    unfold fstep'
    cases hs : fstep s a with
    | none => exact h
    | some s' => exact good_step h hs

end Bpmn.Model.FlowOrder
