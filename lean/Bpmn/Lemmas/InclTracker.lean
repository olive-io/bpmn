import Bpmn.Model.InclTracker
/-! Lemmas about the flow tracker's map and the join decision taken on it. -/
namespace Bpmn.Model.InclTracker

def NodupKeys (m : Map) : Prop := (m.map (·.1)).Nodup

theorem lookup_filter_ne (m : Map) (t x : Nat) (h : x ≠ t) :
    List.lookup x (m.filter (·.1 != t)) = List.lookup x m := by
  induction m with
  | nil => rfl
  | cons p rest ih =>
    obtain ⟨k, v⟩ := p
    rw [List.filter_cons]
    split
    · rw [List.lookup_cons, List.lookup_cons, ih]
    · next hk =>
      have hx : (x == k) = false := by simpa [bne] using fun e : x = k => h (e ▸ (by simpa using hk))
      rw [List.lookup_cons, hx, ih]

theorem get?_set (m : Map) (t o x : Nat) :
    (m.set t o).get? x = if x = t then some o else m.get? x := by
  unfold Map.set Map.get?
  rw [List.lookup_cons]
  split
  · next h => rw [if_pos (beq_iff_eq.mp h)]
  · next h => rw [if_neg (beq_eq_false_iff_ne.mp h), lookup_filter_ne m t x (beq_eq_false_iff_ne.mp h)]

theorem get?_del (m : Map) (t x : Nat) (h : x ≠ t) : (m.del t).get? x = m.get? x :=
  lookup_filter_ne m t x h

theorem get?_del_self (m : Map) (t : Nat) : (m.del t).get? t = none :=
  List.lookup_eq_none_iff.mpr fun _ hp => bne_comm.trans (List.mem_filter.mp hp).2

theorem nodupKeys_filter (m : Map) (p : Nat × Nat → Bool) (h : NodupKeys m) : NodupKeys (m.filter p) :=
  List.Nodup.sublist (List.filter_sublist.map _) h

theorem nodupKeys_set (m : Map) (t o : Nat) (h : NodupKeys m) : NodupKeys (m.set t o) := by
  refine List.nodup_cons.mpr ⟨fun hm => ?_, nodupKeys_filter m _ h⟩
  obtain ⟨b, hb, e⟩ := List.mem_map.mp hm
  have := (List.mem_filter.mp hb).2
  simp [e] at this

theorem nodupKeys_step (m : Map) (tr : Tr) (h : NodupKeys m) : NodupKeys (step m tr) := by
  cases tr with
  | term t => exact nodupKeys_filter m _ h
  | flow src incl toks =>
    refine List.foldlRecOn (motive := NodupKeys) toks _ h fun m hm p _ => ?_
    split
    · exact nodupKeys_set m _ _ hm
    · exact hm

theorem nodupKeys_track (log : List Tr) : NodupKeys (track log) :=
  List.foldlRecOn (motive := NodupKeys) log step List.nodup_nil fun m h tr _ => nodupKeys_step m tr h

theorem track_append (log : List Tr) (tr : Tr) : track (log ++ [tr]) = step (track log) tr := by
  unfold track
  rw [List.foldl_append]
  rfl

theorem mem_iff_get? (m : Map) (h : NodupKeys m) (x v : Nat) : (x, v) ∈ m ↔ m.get? x = some v := by
  unfold Map.get?
  induction m with
  | nil => exact ⟨nofun, nofun⟩
  | cons p rest ih =>
    obtain ⟨k, w⟩ := p
    obtain ⟨hk, hrest⟩ := List.nodup_cons.mp h
    rw [List.lookup_cons, List.mem_cons]
    split
    · next e =>
      cases beq_iff_eq.mp e
      exact ⟨fun hm => hm.elim (fun e => by cases e; rfl) fun hm => absurd (List.mem_map.mpr ⟨_, hm, rfl⟩) hk,
        fun e => by cases e; exact .inl rfl⟩
    · next e =>
      exact ⟨fun hm => hm.elim (fun e' => by cases e'; simp at e) (ih hrest).mp, fun hl => .inr ((ih hrest).mpr hl)⟩

theorem mem_cohort (m : Map) (h : NodupKeys m) (t x : Nat) :
    x ∈ cohort m t ↔ ∃ loc, m.get? t = some loc ∧ m.get? x = some loc := by
  unfold cohort
  cases m.get? t with
  | none => exact ⟨nofun, nofun⟩
  | some loc =>
    simp only [List.mem_map, List.mem_filter, beq_iff_eq, Option.some.injEq, exists_eq_left']
    constructor
    · rintro ⟨⟨k, v⟩, ⟨hm, rfl⟩, rfl⟩
      exact (mem_iff_get? m h k v).mp hm
    · exact fun hx => ⟨(x, loc), ⟨(mem_iff_get? m h x loc).mpr hx, rfl⟩, rfl⟩

theorem get?_step_flow_incl (src : Nat) (toks : List (Nat × Nat)) : ∀ (m : Map) (x : Nat),
    (step m (.flow src true toks)).get? x = if x ∈ toks.map (·.1) then some src else m.get? x := by
  simp only [step, Bool.or_true, if_true]
  induction toks with
  | nil => exact fun m x => rfl
  | cons p rest ih =>
    intro m x
    rw [List.foldl_cons, ih, get?_set, List.map_cons]
    by_cases h1 : x ∈ rest.map (·.1)
    · rw [if_pos h1, if_pos (List.mem_cons_of_mem _ h1)]
    · rw [if_neg h1]
      split
      · next h2 => rw [if_pos (List.mem_cons.mpr (.inl h2))]
      · next h2 => rw [if_neg (fun h => (List.mem_cons.mp h).elim h2 h1)]

theorem arriveAllFresh_append (log : List Tr) : ∀ (p q : List Nat) (j : Join),
    j.arriveAllFresh log (p ++ q) = (j.arriveAllFresh log p).arriveAllFresh log q
  | [], _, _ => rfl
  | t :: p, q, j => arriveAllFresh_append log p q (j.arrive log log.length t)

/-- The first arrival activates the join and is then treated like any other: an idle join behaves as one that `a` has
activated and where nobody has arrived yet. This puts the first arrival under `arrive_waits` / `arrive_fires`. -/
theorem arriveAllFresh_idle (log : List Tr) (fired : List (List Nat)) (a : Nat) (rest : List Nat) :
    ({ fired := fired } : Join).arriveAllFresh log (a :: rest) =
      ({ activated := some a, arrived := [], fired := fired } : Join).arriveAllFresh log (a :: rest) := rfl

theorem arrive_waits (log : List Tr) (a : Nat) (fired : List (List Nat)) (done : List Nat) (t u : Nat)
    (hu : u ∈ cohort (track log) a) (hn : u ∉ done ++ [t]) :
    ({ activated := some a, arrived := done, fired := fired } : Join).arrive log log.length t =
      { activated := some a, arrived := done ++ [t], fired := fired } := by
  have hall : ((cohort (track log) a).all fun x => (done ++ [t]).contains x) = false :=
    List.all_eq_false.mpr ⟨u, hu, fun hc => hn (List.contains_iff_mem.mp hc)⟩
  simp only [Join.arrive, Join.trySync, List.take_length, hall, Bool.false_eq_true, if_false]

theorem arrive_fires (log : List Tr) (a : Nat) (fired : List (List Nat)) (done : List Nat) (t : Nat)
    (h : ∀ x ∈ cohort (track log) a, x ∈ done ++ [t]) :
    ({ activated := some a, arrived := done, fired := fired } : Join).arrive log log.length t =
      { activated := none, arrived := [], fired := fired ++ [done ++ [t]] } := by
  have hall : ((cohort (track log) a).all fun x => (done ++ [t]).contains x) = true :=
    List.all_eq_true.mpr fun x hx => List.contains_iff_mem.mpr (h x hx)
  simp only [Join.arrive, Join.trySync, List.take_length, hall, if_true]

end Bpmn.Model.InclTracker
