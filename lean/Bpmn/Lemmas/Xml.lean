import Bpmn.Model.Xml
/-! Lemmas about the generic XML codec that hold for every table. -/
namespace Bpmn.Model.Xml

theorem pairwiseNoClash_cons (f : FField) (fs : List FField) :
    pairwiseNoClash (f :: fs) = true ↔
      (∀ g ∈ fs, keyClash f.f g.f = false) ∧ pairwiseNoClash fs = true := by
  simp [pairwiseNoClash]

theorem nameMatches_false_of_noClash {g f : Field} (h : keyClash g f = false) :
    nameMatches g (some f.ns) f.name = false := by
  simp only [keyClash, nameMatches, Bool.and_eq_false_iff, Bool.or_eq_false_iff, beq_eq_false_iff_ne, ne_eq,
    Option.some.injEq] at h ⊢
  exact h.imp id fun ⟨⟨h1, _⟩, h3⟩ => ⟨h1, fun e => h3 e.symm⟩

theorem nameMatches_self (f : Field) : nameMatches f (some f.ns) f.name = true := by
  simp [nameMatches]

theorem findField_of_distinct (env : List (Nat × Nat)) (x : Xml) :
    ∀ (efs : List FField) (i : Nat) (f : FField) (k : Nat),
      pairwiseNoClash efs = true → efs[i]? = some f → x.name.loc = f.f.name →
      resolveElem (x.decls ++ env) x.name = some f.f.ns →
      findField env x efs k = some (k + i, f.f) := by
  intro efs
  induction efs with
  | nil => intro i f k _ hi; simp at hi
  | cons g rest ih =>
    intro i f k hd hi hname hres
    obtain ⟨hg, hrest⟩ := (pairwiseNoClash_cons g rest).mp hd
    rw [findField, hres, hname]
    cases i with
    | zero =>
      cases Option.some.inj hi
      rw [nameMatches_self]; rfl
    | succ j =>
      have hi' : rest[j]? = some f := hi
      rw [nameMatches_false_of_noClash (hg f (List.mem_of_getElem? hi')), ih j f (k + 1) hrest hi' hname hres,
        Nat.add_assoc, Nat.add_comm 1 j]
      rfl

/-- building block of the tree-level round trip: the children written for one field, then those of the next -/
theorem parseKids_append (S : Schema) (env : List (Nat × Nat)) (efs : List FField) (b : List Xml)
    (l2 : List (Nat × Node)) (hb : parseKids S env efs b = some l2) :
    ∀ (a : List Xml) (l1 : List (Nat × Node)), parseKids S env efs a = some l1 →
      parseKids S env efs (a ++ b) = some (l1 ++ l2)
  | [], l1, ha => by cases Option.some.inj ha; exact hb
  | .elem n dc ats ks tx :: xs, l1, ha => by
    have ih := parseKids_append S env efs b l2 hb xs
    rw [List.cons_append, parseKids]
    rw [parseKids] at ha
    cases hf : findField env (.elem n dc ats ks tx) efs 0 with
    | none => rw [hf] at ha; exact ih l1 ha
    | some p =>
      rw [hf] at ha
      cases hc : parseElem S env p.2.ty (.elem n dc ats ks tx) <;> cases hx : parseKids S env efs xs <;>
        simp only [hc, hx, reduceCtorEq] at ha
      cases Option.some.inj ha
      simp only [hc, ih _ hx, List.cons_append]

theorem applyDefault_nil (go : Nat) (v : String) : applyDefault [] go v = v := rfl

theorem applyDefault_idem (d : List (Nat × String)) (go : Nat) (v : String) :
    applyDefault d go (applyDefault d go v) = applyDefault d go v := by
  unfold applyDefault
  cases d.lookup go with
  | none => rfl
  | some c => by_cases hv : v = "" <;> by_cases hc : c = "" <;> simp [hv, hc]

theorem normAttrs_nil_fields (d : List (Nat × String)) (a : List (Option String)) :
    normAttrs d [] a = [] := by cases a <;> rfl

theorem normAttrs_length (d : List (Nat × String)) (afs : List FField) : ∀ a : List (Option String),
    a.length = afs.length → (normAttrs d afs a).length = a.length := by
  induction afs with
  | nil => intro a h; cases a with | nil => rfl | cons _ _ => simp at h
  | cons f fs ih =>
    intro a h
    cases a with
    | nil => simp at h
    | cons v vs => rw [normAttrs, List.length_cons, ih vs (Nat.succ.inj h)]; rfl

theorem normAttrs_nil_id (afs : List FField) : ∀ a : List (Option String), a.length = afs.length →
    normAttrs [] afs a = a := by
  induction afs with
  | nil => intro a h; cases a with | nil => rfl | cons _ _ => simp at h
  | cons f fs ih =>
    intro a h
    cases a with
    | nil => simp at h
    | cons v vs => rw [normAttrs, ih vs (Nat.succ.inj h)]; cases v <;> rfl

theorem normAttrs_map (d : List (Nat × String)) (X : FField → Option String) : ∀ afs : List FField,
    normAttrs d afs (afs.map X) = afs.map fun f => (X f).map (applyDefault d f.f.go)
  | [] => rfl
  | f :: fs => by simp [normAttrs, normAttrs_map d X fs]

theorem normAttrs_absorb (d d' : List (Nat × String)) (hd : d = [] ∨ d = d') :
    ∀ (afs : List FField) (a : List (Option String)),
      normAttrs d' afs (normAttrs d afs a) = normAttrs d' afs a
  | [], a => by simp [normAttrs_nil_fields]
  | _ :: _, [] => rfl
  | f :: fs, v :: vs => by
    have : (v.map (applyDefault d f.f.go)).map (applyDefault d' f.f.go) = v.map (applyDefault d' f.f.go) := by
      rcases hd with rfl | rfl <;> cases v <;> simp [applyDefault_nil, applyDefault_idem]
    simp only [normAttrs, this, normAttrs_absorb d d' hd fs vs]

theorem findAttr_skip (env : List (Nat × Nat)) (g : Field) (q : QN) (v : String)
    (rest : List (QN × String)) (hne : g.name ≠ q.loc) :
    findAttr env g ((q, v) :: rest) = findAttr env g rest := by
  simp only [findAttr]
  cases findAttr env g rest with
  | some w => rfl
  | none => simp [nameMatches, hne]

theorem findAttr_none (env : List (Nat × Nat)) (g : Field) : ∀ l : List (QN × String),
    (∀ p ∈ l, g.name ≠ p.1.loc) → findAttr env g l = none
  | [], _ => rfl
  | (q, v) :: rest, h => by
    rw [findAttr_skip env g q v rest (h (q, v) (by simp))]
    exact findAttr_none env g rest fun p hp => h p (by simp [hp])

theorem encodeAttrs_mem (d : List (Nat × String)) :
    ∀ (afs : List FField) (a : List (Option String)) (p : QN × String),
      p ∈ encodeAttrs d afs a → ∃ f ∈ afs, p.1 = ⟨0, f.f.name⟩
  | [], a, p, h => by cases a <;> simp [encodeAttrs] at h
  | _ :: _, [], p, h => nomatch h
  | f :: rest, none :: xs, p, h => by
    obtain ⟨g, hg, e⟩ := encodeAttrs_mem d rest xs p h
    exact ⟨g, by simp [hg], e⟩
  | f :: rest, some w :: xs, p, h => by
    rcases List.mem_cons.mp h with rfl | h
    · exact ⟨f, by simp, rfl⟩
    · obtain ⟨g, hg, e⟩ := encodeAttrs_mem d rest xs p h
      exact ⟨g, by simp [hg], e⟩

theorem findAttr_encodeAttrs (env : List (Nat × Nat)) (d : List (Nat × String)) :
    ∀ (afs : List FField) (vals : List (Option String)), vals.length = afs.length →
      pairwiseNoClash afs = true → (∀ f ∈ afs, f.f.ns = 0) →
      afs.map (fun f => findAttr env f.f (encodeAttrs d afs vals)) = normAttrs d afs vals
  | [], vals, _, _, _ => by simp [normAttrs_nil_fields]
  | _ :: _, [], h, _, _ => nomatch h
  | f :: rest, v :: vs, hlen, hd, hns => by
    obtain ⟨hf, hrest⟩ := (pairwiseNoClash_cons f rest).mp hd
    have hf0 : f.f.ns = 0 := hns f (by simp)
    have hne : ∀ g ∈ rest, f.f.name ≠ g.f.name := fun g hg e => by
      simpa [keyClash, e, hf0] using hf g hg
    have ih := findAttr_encodeAttrs env d rest vs (Nat.succ.inj hlen) hrest fun g hg => hns g (by simp [hg])
    -- nothing written for the other fields is read back for `f`, and the other way round
    have hnone : findAttr env f.f (encodeAttrs d rest vs) = none :=
      findAttr_none env f.f _ fun p hp => by
        obtain ⟨g, hg, e⟩ := encodeAttrs_mem d rest vs p hp
        rw [e]; exact hne g hg
    cases v with
    | none => simp only [List.map_cons, encodeAttrs, normAttrs, Option.map_none, hnone, ih]
    | some x =>
      simp only [List.map_cons, encodeAttrs, normAttrs, Option.map_some, ← ih]
      congr 1
      · simp [findAttr, hnone, nameMatches, resolveAttr, hf0]
      · exact List.map_congr_left fun g hg => findAttr_skip env g.f _ _ _ fun e => hne g hg e.symm

theorem wellTypedB_mk (S : Schema) (ty : Nat) (a : List (Option String)) (k : List (List Node)) (t : String) :
    wellTypedB S (.mk ty a k t) = true ↔
      a.length = (attrFields S ty).length ∧ wtFields S (elemFields S ty) k = true ∧
        (keepsText S ty = true ∨ t = "") := by
  simp only [wellTypedB, Bool.and_eq_true, Bool.or_eq_true, beq_iff_eq, and_assoc]

theorem wtFields_cons (S : Schema) (f : FField) (fs : List FField) (ks : List Node) (kss : List (List Node)) :
    wtFields S (f :: fs) (ks :: kss) = true ↔
      (f.f.rep ≠ .val ∨ ks ≠ []) ∧ wtKids S f.f ks = true ∧ wtFields S fs kss = true := by
  simp only [wtFields, Bool.and_eq_true, Bool.or_eq_true, bne_iff_ne, ne_eq, Bool.not_eq_true',
      List.isEmpty_eq_false_iff, and_assoc]

theorem wtKids_cons (S : Schema) (f : Field) (cty : Nat) (a : List (Option String)) (k : List (List Node))
    (t : String) (cs : List Node) :
    wtKids S f (.mk cty a k t :: cs) = true ↔
      (if f.ty == S.anExprTy then cty == S.formalTy || cty == S.informalTy else cty == f.ty) = true ∧
      (f.rep = .slice ∨ f.rep = .slicePtr ∨ cs = []) ∧
      wellTypedB S (.mk cty a k t) = true ∧ wtKids S f cs = true := by
  simp only [wtKids, Bool.and_eq_true, Bool.or_eq_true, beq_iff_eq, List.isEmpty_iff, and_assoc, or_assoc]

/-! ## What marshalling stores back is idempotent and touches text only (trees of any size) -/

mutual
theorem stored_idem (S : Schema) (tr : String → String) (h : ∀ s, tr (tr s) = tr s) :
    ∀ n : Node, stored S tr (stored S tr n) = stored S tr n
  | .mk ty attrs kids text => by
    simp only [stored, storedFields_idem S tr h kids]
    by_cases ht : trimsText S ty = true <;> simp [ht, h]
theorem storedFields_idem (S : Schema) (tr : String → String) (h : ∀ s, tr (tr s) = tr s) :
    ∀ kss : List (List Node), storedFields S tr (storedFields S tr kss) = storedFields S tr kss
  | [] => by simp [storedFields]
  | ks :: kss => by simp [storedFields, storedKids_idem S tr h ks, storedFields_idem S tr h kss]
theorem storedKids_idem (S : Schema) (tr : String → String) (h : ∀ s, tr (tr s) = tr s) :
    ∀ ks : List Node, storedKids S tr (storedKids S tr ks) = storedKids S tr ks
  | [] => by simp [storedKids]
  | c :: cs => by simp [storedKids, stored_idem S tr h c, storedKids_idem S tr h cs]
end

/-- the skeleton of a node: everything but the text -/
inductive Skel where
  | mk (ty : Nat) (attrs : List (Option String)) (kids : List (List Skel))

mutual
def skel : Node → Skel
  | .mk ty attrs kids _ => .mk ty attrs (skelFields kids)
def skelFields : List (List Node) → List (List Skel)
  | [] => []
  | ks :: kss => skelKids ks :: skelFields kss
def skelKids : List Node → List Skel
  | [] => []
  | c :: cs => skel c :: skelKids cs
end

mutual
theorem stored_skel (S : Schema) (tr : String → String) : ∀ n : Node, skel (stored S tr n) = skel n
  | .mk ty attrs kids text => by simp [stored, skel, storedFields_skel S tr kids]
theorem storedFields_skel (S : Schema) (tr : String → String) :
    ∀ kss : List (List Node), skelFields (storedFields S tr kss) = skelFields kss
  | [] => by simp [storedFields, skelFields]
  | ks :: kss => by simp [storedFields, skelFields, storedKids_skel S tr ks, storedFields_skel S tr kss]
theorem storedKids_skel (S : Schema) (tr : String → String) :
    ∀ ks : List Node, skelKids (storedKids S tr ks) = skelKids ks
  | [] => by simp [storedKids, skelKids]
  | c :: cs => by simp [storedKids, skelKids, stored_skel S tr c, storedKids_skel S tr cs]
end

/-! ## Equality of trees

It is decidable (`Node` is a nested inductive type, for which this cannot be derived), so that the
kernel alone can compare two concrete trees. -/

mutual
def Node.eqB : Node → Node → Bool
  | .mk ty a k t, .mk ty' a' k' t' => ty == ty' && a == a' && eqFields k k' && t == t'
def eqFields : List (List Node) → List (List Node) → Bool
  | [], [] => true
  | ks :: kss, ks' :: kss' => eqKids ks ks' && eqFields kss kss'
  | _, _ => false
def eqKids : List Node → List Node → Bool
  | [], [] => true
  | c :: cs, c' :: cs' => c.eqB c' && eqKids cs cs'
  | _, _ => false
end

mutual
theorem Node.eq_of_eqB : ∀ m n : Node, m.eqB n = true → m = n
  | .mk ty a k t, .mk ty' a' k' t', h => by
    simp only [Node.eqB, Bool.and_eq_true, beq_iff_eq] at h
    rw [h.1.1.1, h.1.1.2, eqFields_eq k k' h.1.2, h.2]
theorem eqFields_eq : ∀ k k' : List (List Node), eqFields k k' = true → k = k'
  | [], [], _ => rfl
  | ks :: kss, ks' :: kss', h => by
    simp only [eqFields, Bool.and_eq_true] at h
    rw [eqKids_eq ks ks' h.1, eqFields_eq kss kss' h.2]
  | [], _ :: _, h => nomatch h
  | _ :: _, [], h => nomatch h
theorem eqKids_eq : ∀ cs cs' : List Node, eqKids cs cs' = true → cs = cs'
  | [], [], _ => rfl
  | c :: cs, c' :: cs', h => by
    simp only [eqKids, Bool.and_eq_true] at h
    rw [Node.eq_of_eqB c c' h.1, eqKids_eq cs cs' h.2]
  | [], _ :: _, h => nomatch h
  | _ :: _, [], h => nomatch h
end

mutual
theorem Node.eqB_refl : ∀ n : Node, n.eqB n = true
  | .mk ty a k t => by simp [Node.eqB, eqFields_refl k]
theorem eqFields_refl : ∀ k : List (List Node), eqFields k k = true
  | [] => rfl
  | ks :: kss => by simp [eqFields, eqKids_refl ks, eqFields_refl kss]
theorem eqKids_refl : ∀ cs : List Node, eqKids cs cs = true
  | [] => rfl
  | c :: cs => by simp [eqKids, Node.eqB_refl c, eqKids_refl cs]
end

instance : DecidableEq Node := fun m n =>
  decidable_of_iff (m.eqB n = true) ⟨Node.eq_of_eqB m n, fun h => h ▸ Node.eqB_refl m⟩

/-- `valueExprFields S = []`, checked along the list of structs instead of index by index
(`S.struct? i` walks the list once per index) -/
theorem valueExprFields_nil (S : Schema)
    (h : S.structs.zipIdx.all (fun p => p.1.fields.all fun f =>
      !(f.kind == .elem && byDefaultRules S f && f.ty == S.anExprTy && p.2 != S.anExprTy)) = true) :
    valueExprFields S = [] := by
  refine List.flatMap_eq_nil_iff.mpr fun i _ => ?_
  cases hs : S.struct? i with
  | none => rfl
  | some st =>
    have hall := List.all_eq_true.mp (List.all_eq_true.mp h (st, i) (List.mem_zipIdx_iff_getElem?.mpr hs))
    show List.map _ (List.filter _ st.fields) = []
    rw [List.filter_eq_nil_iff.mpr fun f hf => Bool.eq_false_iff.mp ((Bool.not_eq_true' _).mp (hall f hf))]
    rfl

end Bpmn.Model.Xml
