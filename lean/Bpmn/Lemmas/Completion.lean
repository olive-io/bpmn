import Bpmn.Model.Completion
/-! Lemmas about the completion model itself: list update, the vocabulary of the invariants, and what `step` does —
the successor relation `Step`, over which every invariant of C02 is proved by case analysis. -/
namespace Bpmn.Model.Completion

theorem upd_eq_modify {α : Type} (l : List α) (i : Nat) (f : α → α) : upd l i f = l.modify i f := by
  induction l generalizing i with
  | nil => simp [upd]
  | cons x xs ih => cases i <;> simp [upd, ih]

theorem upd_eq_set {α : Type} {l : List α} {i : Nat} {y : α} (f : α → α) (h : l[i]? = some y) :
    upd l i f = l.set i (f y) := by
  obtain ⟨hlt, rfl⟩ := List.getElem?_eq_some_iff.mp h
  apply List.ext_getElem?; intro j
  rw [upd_eq_modify, List.getElem?_modify, List.getElem?_set]
  split
  · next e => subst e; simp [hlt]
  · simp

theorem upd_of_none {α : Type} {l : List α} {i : Nat} (f : α → α) (h : l[i]? = none) : upd l i f = l := by
  rw [upd_eq_modify, List.modify_eq_self (List.getElem?_eq_none_iff.mp h)]

theorem getElem?_append_some {α : Type} {l r : List α} {k : Nat} {m : α} (h : l[k]? = some m) :
    (l ++ r)[k]? = some m := by
  obtain ⟨hlt, _⟩ := List.getElem?_eq_some_iff.mp h
  rw [List.getElem?_append_left hlt]; exact h

theorem swapRemove_perm (l : List Nat) (k : Nat) : (swapRemove l k).Perm (l.erase k) := by
  induction l with
  | nil => simp [swapRemove]
  | cons x xs ih =>
    unfold swapRemove
    by_cases h : x = k
    · subst h
      simp only [if_true, List.erase_cons_head]
      cases hl : xs.getLast? with
      | none => simp [List.getLast?_eq_none_iff] at hl; simp [hl]
      | some l =>
        have : xs = xs.dropLast ++ [l] := by
          rcases List.getLast?_eq_some_iff.mp hl with ⟨ys, rfl⟩
          simp
        simp only
        conv => rhs; rw [this]
        exact (List.perm_append_comm (l₁ := [l]) (l₂ := xs.dropLast))
    · simp only [h, if_false]
      rw [List.erase_cons_tail (by simpa using h)]
      exact List.Perm.cons _ ih

theorem swapRemove_nodup {l : List Nat} (k : Nat) (h : l.Nodup) : (swapRemove l k).Nodup :=
  (swapRemove_perm l k).nodup_iff.mpr (h.erase k)

theorem mem_swapRemove {l : List Nat} {k j : Nat} (h : j ∈ swapRemove l k) : j ∈ l :=
  List.mem_of_mem_erase ((swapRemove_perm l k).mem_iff.mp h)

def starts (b : List Trace) : Nat := b.count .start

/-- how often the start trace being broadcast is still owed to subscriber `k` -/
def pendFor (s : St) (k : Nat) : Nat :=
  match s.pending with
  | some (.start, ks) => ks.count k
  | _ => 0

def trigCount (p : List SI) : Nat := p.count .trigger
def subCount (p : List SI) : Nat := p.count .subscribe

/-- the monitor goroutine runs and has not released the completion lock -/
def MPc.holds : MPc → Bool
  | .counting | .unsub | .wgwait | .ceasing | .unlocking => true
  | _ => false

/-- the monitor has left the counting loop (it saw as many start traces as there are start events) -/
def MPc.counted : MPc → Bool
  | .unsub | .wgwait => true
  | _ => false

/-- the monitor has seen the wait group at zero -/
def MPc.pastWg : MPc → Bool
  | .ceasing | .unlocking | .done => true
  | _ => false

def MPc.pastCease : MPc → Bool
  | .unlocking | .done => true
  | _ => false

/-- shape of a (remaining) starter program: every `lock` directly follows its `subscribe` -/
def wf : List SI → Bool
  | [] => true
  | .trigger :: r => wf r
  | .subscribe :: .lock :: r => wf r
  | _ => false

/-- newest-first log: after the first cease nothing but cease traces — and traces of goroutines outside the wait group -/
def LogOk : List Trace → Prop
  | [] => True
  | t :: r => (Trace.cease ∈ r → t = .cease ∨ t = .stray) ∧ LogOk r

theorem forall_getElem?_set {α : Type} {l : List α} {i : Nat} {a : α} {Φ : Nat → α → Prop}
    (hother : ∀ k m, k ≠ i → l[k]? = some m → Φ k m) (hself : Φ i a) :
    ∀ k m, (l.set i a)[k]? = some m → Φ k m := by
  intro k m hk
  rw [List.getElem?_set] at hk
  split at hk
  · next e => subst e; split at hk <;> cases hk; exact hself
  · next e => exact hother k m (fun h => e h.symm) hk

theorem forall_getElem?_concat {α : Type} {l : List α} {a : α} {Φ : Nat → α → Prop}
    (hold : ∀ k m, l[k]? = some m → Φ k m) (hnew : Φ l.length a) :
    ∀ k m, (l ++ [a])[k]? = some m → Φ k m := by
  intro k m hk
  rcases Nat.lt_trichotomy k l.length with h | rfl | h
  · rw [List.getElem?_append_left h] at hk; exact hold k m hk
  · rw [List.getElem?_concat_length] at hk; cases hk; exact hnew
  · rw [List.getElem?_eq_none (by simp; omega)] at hk; cases hk

theorem exists_getElem?_set {α : Type} {l : List α} {i j : Nat} {y a : α} {p : α → Prop} (hy : l[i]? = some y)
    (ha : p y → p a) (h : ∃ x, l[j]? = some x ∧ p x) : ∃ x, (l.set i a)[j]? = some x ∧ p x := by
  obtain ⟨x, hx, hp⟩ := h
  by_cases e : i = j
  · subst e; rw [hy] at hx; cases hx
    exact ⟨a, List.getElem?_set_self (List.getElem?_eq_some_iff.mp hy).1, ha hp⟩
  · exact ⟨x, by rw [List.getElem?_set_ne e]; exact hx, hp⟩

theorem eq_of_getElem?_singleton {α : Type} {a m : α} {k : Nat} (h : [a][k]? = some m) : k = 0 ∧ a = m := by
  cases k with
  | zero => cases h; exact ⟨rfl, rfl⟩
  | succ k => cases h

theorem forall_mem_set {α : Type} {l : List α} {i : Nat} {a : α} {p : α → Prop} (h : ∀ y ∈ l, p y) (ha : p a) :
    ∀ y ∈ l.set i a, p y :=
  fun y hy => (List.mem_or_eq_of_mem_set hy).elim (h y) (fun e => e ▸ ha)

theorem forall_mem_concat {α : Type} {l : List α} {a : α} {p : α → Prop} (h : ∀ y ∈ l, p y) (ha : p a) :
    ∀ y ∈ l ++ [a], p y :=
  List.forall_mem_append.mpr ⟨h, List.forall_mem_singleton.mpr ha⟩

theorem countP_set {α : Type} {l : List α} {i : Nat} {y a : α} (p : α → Bool) (hy : l[i]? = some y) :
    (l.set i a).countP p + (if p y then 1 else 0) = l.countP p + (if p a then 1 else 0) := by
  induction l generalizing i with
  | nil => cases hy
  | cons b bs ih =>
    cases i with
    | zero => cases hy; simp only [List.set_cons_zero, List.countP_cons]; omega
    | succ i =>
      have := ih (i := i) hy
      simp only [List.set_cons_succ, List.countP_cons]; omega

theorem sum_map_set {α : Type} {l : List α} {i : Nat} {y a : α} (g : α → Nat) (hy : l[i]? = some y) :
    ((l.set i a).map g).sum + g y = (l.map g).sum + g a := by
  induction l generalizing i with
  | nil => cases hy
  | cons b bs ih =>
    cases i with
    | zero => cases hy; simp only [List.set_cons_zero, List.map_cons, List.sum_cons]; omega
    | succ i =>
      have := ih (i := i) hy
      simp only [List.set_cons_succ, List.map_cons, List.sum_cons]; omega

theorem pendFor_none {s : St} (h : s.pending = none) (k : Nat) : pendFor s k = 0 := by simp [pendFor, h]

theorem pendFor_some {s : St} {t : Trace} {ks : List Nat} (h : s.pending = some (t, ks)) (k : Nat) :
    pendFor s k = isStart t * ks.count k := by
  cases t <;> simp [pendFor, h, isStart]

theorem pendFor_mkPending {s : St} {t : Trace} {subs : List Nat} (h : s.pending = mkPending t subs) (k : Nat) :
    pendFor s k = isStart t * subs.count k := by
  cases subs with
  | nil => rw [pendFor_none h]; simp
  | cons a as => exact pendFor_some h k

theorem starts_cons (t : Trace) (r : List Trace) : starts (t :: r) = starts r + isStart t := by
  cases t <;> simp [starts, isStart]

theorem starts_append (t : Trace) (r : List Trace) : starts (r ++ [t]) = starts r + isStart t := by
  cases t <;> simp [starts, isStart, List.count_append]

/-- `step P s c` is `s` or the `s'` with `Step P s c s'` (`step_spec`) -/
inductive Step (P : Params) (s : St) : Choice → St → Prop
  | trigger {r} : s.prog = .trigger :: r → Step P s .starter { s with triggered := s.triggered + 1, prog := r }
  | subscribe {r} : s.prog = .subscribe :: r → s.pending = none →
      Step P s .starter { s with mons := s.mons ++ [{}], subs := s.subs ++ [s.mons.length], prog := r }
  | lock {r m} : s.prog = .lock :: r → s.lock = none → s.mons[s.mons.length - 1]? = some m →
      Step P s .starter { s with mons := s.mons.set (s.mons.length - 1) { m with pc := .counting },
                                 lock := some (.mon (s.mons.length - 1)), prog := r }
  /-- `Lock` with no monitor to start: excluded by `LockInv` -/
  | lockNoMon {r} : s.prog = .lock :: r → s.lock = none → s.mons[s.mons.length - 1]? = none →
      Step P s .starter { s with lock := some (.mon (s.mons.length - 1)), prog := r }
  | counted {k m} : s.mons[k]? = some m → m.pc = .counting → m.count = P.n →
      Step P s (.mon k) { s with mons := s.mons.set k { m with pc := .unsub } }
  | count {k m t r} : s.mons[k]? = some m → m.pc = .counting → m.count ≠ P.n → m.buf = t :: r →
      Step P s (.mon k) { s with mons := s.mons.set k { m with buf := r, count := m.count + isStart t } }
  | unsub {k m} : s.mons[k]? = some m → m.pc = .unsub → s.pending = none →
      Step P s (.mon k) { s with subs := swapRemove s.subs k, mons := s.mons.set k { m with buf := [], pc := .wgwait } }
  | drain {k m t r} : s.mons[k]? = some m → m.pc = .unsub → s.pending ≠ none → m.buf = t :: r →
      Step P s (.mon k) { s with mons := s.mons.set k { m with buf := r } }
  | wgDone {k m} : s.mons[k]? = some m → m.pc = .wgwait → s.wg = 0 →
      Step P s (.mon k) { s with mons := s.mons.set k { m with pc := .ceasing } }
  | cease {k m} : s.mons[k]? = some m → m.pc = .ceasing → s.pending = none →
      Step P s (.mon k) { s with log := .cease :: s.log, pending := mkPending .cease s.subs,
                                 mons := s.mons.set k { m with pc := .unlocking } }
  | unlock {k m} : s.mons[k]? = some m → m.pc = .unlocking →
      Step P s (.mon k) { s with lock := none, mons := s.mons.set k { m with pc := .done } }
  | served {t} : s.pending = some (t, []) → Step P s .deliver { s with pending := none }
  | deliver {t k ks m} : s.pending = some (t, k :: ks) → s.mons[k]? = some m → m.buf.length < P.subBuf →
      Step P s .deliver { s with mons := s.mons.set k { m with buf := m.buf ++ [t] },
                                 pending := mkPending t ks }
  | helperLock {w x} : s.waits[w]? = some x → x.helper = .wantLock → s.lock = none →
      Step P s (.helper w) { s with lock := some (.helper w), waits := s.waits.set w { x with helper := .holding } }
  | signal {w x} : s.waits[w]? = some x → x.helper = .holding → 1 ≤ P.sigCap →
      Step P s (.helper w) { s with lock := none, waits := s.waits.set w { x with helper := .done, sig := true } }
  | handOver {w x} : s.waits[w]? = some x → x.helper = .holding → ¬ 1 ≤ P.sigCap → x.caller = .waiting →
      Step P s (.helper w) { s with lock := none, waits := s.waits.set w { x with helper := .done, caller := .gotTrue } }
  | recv {w x} : s.waits[w]? = some x → x.caller = .waiting → x.sig = true →
      Step P s (.recv w) { s with waits := s.waits.set w { x with caller := .gotTrue, sig := false } }
  | expire {w x} : s.waits[w]? = some x → x.caller = .waiting →
      Step P s (.expire w) { s with waits := s.waits.set w { x with caller := .expired } }
  | call : Step P s .call { s with waits := s.waits ++ [{ early := !s.prog.isEmpty }] }
  | fire : s.fired < s.triggered → Step P s .fire { s with fired := s.fired + 1, wg := s.wg + 1 }
  | startTrace : s.sent < s.fired → s.pending = none →
      Step P s .startTrace { s with sent := s.sent + 1, log := .start :: s.log, pending := mkPending .start s.subs }
  | other : 0 < s.wg → s.pending = none →
      Step P s .other { s with log := .other :: s.log, pending := mkPending .other s.subs }
  | birth : 0 < s.wg → Step P s .birth { s with wg := s.wg + 1 }
  | spawnStray : P.detached = true → 0 < s.wg → Step P s .spawnStray { s with strays := s.strays + 1 }
  | strayTrace : 0 < s.strays → s.pending = none →
      Step P s .strayTrace { s with strays := s.strays - 1, log := .stray :: s.log, pending := mkPending .stray s.subs }
  | death : s.fired - s.sent < s.wg → Step P s .death { s with wg := s.wg - 1 }

theorem step_spec (P : Params) (s : St) (c : Choice) : step P s c = s ∨ Step P s c (step P s c) := by
  cases c with
  | starter =>
    simp only [step, stepStarter]
    split
    · exact .inl rfl
    · next hp => exact .inr (.trigger hp)
    · next hp =>
      split
      · next h => exact .inr (.subscribe hp (Option.isNone_iff_eq_none.mp h))
      · exact .inl rfl
    · next hp =>
      split
      · next h =>
        cases hm : s.mons[s.mons.length - 1]? with
        | none => rw [upd_of_none _ hm]; exact .inr (.lockNoMon hp (Option.isNone_iff_eq_none.mp h) hm)
        | some m => rw [upd_eq_set _ hm]; exact .inr (.lock hp (Option.isNone_iff_eq_none.mp h) hm)
      · exact .inl rfl
  | mon k =>
    simp only [step, stepMon]
    split
    · exact .inl rfl
    · next m hm =>
      simp only [upd_eq_set _ hm, Option.isNone_iff_eq_none]
      split
      · exact .inl rfl
      · next hpc =>
        split
        · next h => exact .inr (.counted hm hpc h)
        · next h =>
          split
          · exact .inl rfl
          · next hb => exact .inr (.count hm hpc h hb)
      · next hpc =>
        split
        · next h => exact .inr (.unsub hm hpc h)
        · next h =>
          split
          · exact .inl rfl
          · next hb => exact .inr (.drain hm hpc h hb)
      · next hpc =>
        split
        · next h => exact .inr (.wgDone hm hpc h)
        · exact .inl rfl
      · next hpc =>
        split
        · next h => exact .inr (.cease hm hpc h)
        · exact .inl rfl
      · next hpc => exact .inr (.unlock hm hpc)
      · exact .inl rfl
  | deliver =>
    simp only [step, stepDeliver]
    split
    · exact .inl rfl
    · next hp => exact .inr (.served hp)
    · next hp =>
      split
      · exact .inl rfl
      · next m hm =>
        simp only [upd_eq_set _ hm]
        split
        · next h => exact .inr (.deliver hp hm h)
        · exact .inl rfl
  | helper w =>
    simp only [step, stepHelper]
    split
    · exact .inl rfl
    · next x hx =>
      simp only [upd_eq_set _ hx, Option.isNone_iff_eq_none]
      split
      · next hh =>
        split
        · next h => exact .inr (.helperLock hx hh h)
        · exact .inl rfl
      · next hh =>
        split
        · next h => exact .inr (.signal hx hh h)
        · next h =>
          split
          · next hc => exact .inr (.handOver hx hh h hc)
          · exact .inl rfl
      · exact .inl rfl
  | recv w =>
    simp only [step, stepRecv]
    split
    · exact .inl rfl
    · next x hx =>
      simp only [upd_eq_set _ hx]
      split
      · next h => exact .inr (.recv hx h.1 h.2)
      · exact .inl rfl
  | expire w =>
    simp only [step, stepExpire]
    split
    · exact .inl rfl
    · next x hx =>
      simp only [upd_eq_set _ hx]
      split
      · next h => exact .inr (.expire hx h)
      · exact .inl rfl
  | call => exact .inr .call
  | fire => simp only [step]; split
            · next h => exact .inr (.fire h)
            · exact .inl rfl
  | startTrace => simp only [step, Option.isNone_iff_eq_none]; split
                  · next h => exact .inr (.startTrace h.1 h.2)
                  · exact .inl rfl
  | other => simp only [step, Option.isNone_iff_eq_none]; split
             · next h => exact .inr (.other h.1 h.2)
             · exact .inl rfl
  | birth => simp only [step]; split
             · next h => exact .inr (.birth h)
             · exact .inl rfl
  | spawnStray => simp only [step]; split
                  · next h => exact .inr (.spawnStray h.1 h.2)
                  · exact .inl rfl
  | strayTrace => simp only [step, Option.isNone_iff_eq_none]; split
                  · next h => exact .inr (.strayTrace h.1 h.2)
                  · exact .inl rfl
  | death => simp only [step]; split
             · next h => exact .inr (.death h)
             · exact .inl rfl

theorem step_of_Step {P : Params} {s s' : St} {c : Choice} (h : Step P s c s') : step P s c = s' := by
  cases h <;> simp [step, stepStarter, stepMon, stepDeliver, stepHelper, stepRecv, stepExpire, mkPending, upd_eq_set, upd_of_none, *]

theorem step_preserves {P : Params} {s : St} {I : St → Prop} (h : ∀ {c s'}, Step P s c s' → I s') (h0 : I s)
    (c : Choice) : I (step P s c) :=
  (step_spec P s c).elim (fun e => e.symm ▸ h0) h

theorem run_preserves {P : Params} {I : St → Prop} (h : ∀ s c, I s → I (step P s c)) {s : St} (h0 : I s)
    (sched : List Choice) : I (run P s sched) := by
  induction sched generalizing s with
  | nil => exact h0
  | cons c cs ih => exact ih (h s c h0)

theorem run_append (P : Params) (s : St) (a b : List Choice) : run P s (a ++ b) = run P (run P s a) b :=
  List.foldl_append

end Bpmn.Model.Completion
