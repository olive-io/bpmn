import Bpmn.Model.CatchEvent
/-! Lemmas for C11 (core Lean only).

The consumers of an instance hardly interact: whatever an operation does to the instance, the consumer at position
`i` only sees its own reader handle messages. The file says once what a delivery does to the list of consumers
(`forward_cons`), what deliveries and woken callers do to every position (`Delivers`) and what an operation does to
an instance (`step_spec`: every position is `Moved`); the invariants are case analyses over these. -/
namespace Bpmn.Model.CatchEvent
open Bpmn.Model.Satisfier

/-- not parallel multiple, or a single definition: every matching event satisfies, nothing is remembered -/
def Plain (n : Node) : Prop := n.sat.par = false ∨ n.sat.len = 1

theorem satisfy_none (s : Sat) : satisfy s none = (s, false, didNotMatch) := rfl

theorem satisfy_plain (s : Sat) (i : Nat) (h : s.par = false ∨ s.len = 1) : satisfy s (some i) = (s, true, 0) := by
  unfold satisfy
  rcases h with h | h <;> simp [h]

theorem matchIdx_nil (e : Ev) : matchIdx [] e = none := rfl

theorem handle_frame (n : Node) (m : Msg) :
    (handle n m).1.kind = n.kind ∧ (handle n m).1.loopStarted = n.loopStarted ∧
      (handle n m).1.inbox = n.inbox ∧ (handle n m).1.incoming = n.incoming := by
  simp only [handle]
  split <;> (repeat' split) <;> exact ⟨rfl, rfl, rfl, rfl⟩

theorem handle_kind (n : Node) (m : Msg) : (handle n m).1.kind = n.kind := (handle_frame n m).1

theorem handle_loopStarted (n : Node) (m : Msg) : (handle n m).1.loopStarted = n.loopStarted := (handle_frame n m).2.1

theorem handle_inbox (n : Node) (m : Msg) : (handle n m).1.inbox = n.inbox := (handle_frame n m).2.2.1

theorem handle_incoming (n : Node) (m : Msg) : (handle n m).1.incoming = n.incoming := (handle_frame n m).2.2.2

theorem handle_event_inactive (n : Node) (e : Ev) (hk : n.kind = .catch_) (ha : n.activated = false) :
    handle n (.event e) = (n, []) := by
  simp [handle, hk, ha]

theorem handle_event_nomatch (n : Node) (e : Ev) (hk : n.kind = .catch_) (hm : matchIdx n.defs e = none) :
    (handle n (.event e)).1 = n ∧ releasedOf (handle n (.event e)).2 = [] := by
  simp only [handle, hk, hm, satisfy_none, Bool.false_eq_true, if_false]
  rw [← hk]
  split <;> exact ⟨rfl, rfl⟩

theorem handle_event_match (n : Node) (e : Ev) (i : Nat) (hk : n.kind = .catch_) (ha : n.activated = true)
    (hp : Plain n) (hm : matchIdx n.defs e = some i) :
    handle n (.event e) = ({ n with parked := [], activated := false }, [.observed, .released n.parked]) := by
  simp [handle, hk, ha, hm, satisfy_plain n.sat i hp]

theorem handle_conserve (n : Node) (m : Msg) (hk : n.kind = .catch_) :
    releasedOf (handle n m).2 ++ (handle n m).1.parked = n.parked ++ arrivalsOf [m] := by
  cases m with
  | event e =>
    simp only [handle, hk]
    split
    · split <;> simp [releasedOf, arrivalsOf]
    · simp [releasedOf, arrivalsOf]
  | next t =>
    simp only [handle, hk]
    split <;> simp [releasedOf, arrivalsOf]
  | start => simp [handle, hk, releasedOf, arrivalsOf]

theorem releasedOf_append (a b : List Out) : releasedOf (a ++ b) = releasedOf a ++ releasedOf b := by
  induction a with
  | nil => rfl
  | cons o os ih => cases o <;> simp [releasedOf, ih]

theorem arrivalsOf_append (a b : List Msg) : arrivalsOf (a ++ b) = arrivalsOf a ++ arrivalsOf b := by
  induction a with
  | nil => rfl
  | cons m ms ih => cases m <;> simp [arrivalsOf, ih]

theorem arrivalsOf_events (evs : List Ev) : arrivalsOf (evs.map Msg.event) = [] := by
  induction evs with
  | nil => rfl
  | cons e evs ih => exact ih

structure Stable (P : Node → Prop) : Prop where
  handle : ∀ n m, P n → P (handle n m).1
  enqueue : ∀ n e, P n → P { n with inbox := n.inbox ++ [Msg.event e] }
  startReader : ∀ n, P n → P { n with loopStarted := true, inbox := [] }

theorem kind_stable (k : NodeKind) : Stable (fun n => n.kind = k) :=
  ⟨fun n m h => (handle_kind n m).trans h, fun _ _ h => h, fun _ h => h⟩

theorem running_stable : Stable (fun n => n.loopStarted = true) :=
  ⟨fun n m h => (handle_loopStarted n m).trans h, fun _ _ h => h, fun _ _ => rfl⟩

theorem runMsgs_kept {P : Node → Prop} (hP : Stable P) (ms : List Msg) : ∀ n : Node, P n → P (runMsgs n ms).1 := by
  induction ms with
  | nil => exact fun _ h => h
  | cons m ms ih => exact fun n h => ih _ (hP.handle n m h)

theorem runMsgs_conserve (n : Node) (ms : List Msg) (hk : n.kind = .catch_) :
    releasedOf (runMsgs n ms).2 ++ (runMsgs n ms).1.parked = n.parked ++ arrivalsOf ms := by
  induction ms generalizing n with
  | nil => simp [runMsgs, releasedOf, arrivalsOf]
  | cons m ms ih =>
    have h1 := handle_conserve n m hk
    have h2 := ih (handle n m).1 (by rw [handle_kind, hk])
    simp only [runMsgs, releasedOf_append]
    rw [show arrivalsOf (m :: ms) = _ from arrivalsOf_append [m] ms, List.append_assoc, h2, ← List.append_assoc, h1, List.append_assoc]

theorem runMsgs_events_inactive (n : Node) (evs : List Ev) (rest : List Msg) (hk : n.kind = .catch_)
    (ha : n.activated = false) : runMsgs n (evs.map Msg.event ++ rest) = runMsgs n rest := by
  induction evs with
  | nil => rfl
  | cons e evs ih => simp only [List.map_cons, List.cons_append, runMsgs, handle_event_inactive n e hk ha, ih, List.nil_append]

inductive Reached (e : Ev) (n : Node) : Node → List Out → Prop
  | handled : n.loopStarted = true → Reached e n (handle n (.event e)).1 (handle n (.event e)).2
  | dropped : n.loopStarted = false → Reached e n n []
  | queued : n.loopStarted = false → Reached e n { n with inbox := n.inbox ++ [.event e] } []

theorem consume_cases (f : InboxFacts) (n : Node) (e : Ev) :
    match consume f n e with
    | .blocks => n.loopStarted = false ∧ f.sendOnlyWhenRunning = false ∧ f.cap n.incoming ≤ n.inbox.length ∧
        f.sendNonBlocking = false
    | .handled n' o => Reached e n n' o
    | .queued n' => Reached e n n' []
    | .dropped => Reached e n n [] := by
  unfold consume
  by_cases h1 : n.loopStarted = true
  · rw [if_pos h1]; exact .handled h1
  have h1' := (Bool.not_eq_true _).mp h1
  rw [if_neg h1]
  by_cases h2 : f.sendOnlyWhenRunning = true
  · rw [if_pos h2]; exact .dropped h1'
  rw [if_neg h2]
  by_cases h3 : n.inbox.length < f.cap n.incoming
  · rw [if_pos h3]; exact .queued h1'
  rw [if_neg h3]
  by_cases h4 : f.sendNonBlocking = true
  · rw [if_pos h4]; exact .dropped h1'
  rw [if_neg h4]
  exact ⟨h1', (Bool.not_eq_true _).mp h2, Nat.le_of_not_lt h3, (Bool.not_eq_true _).mp h4⟩

/-- `ForwardEvent` stops at a consumer whose `ConsumeEvent` blocks and otherwise goes on behind it -/
theorem forward_cons (f : Facts) (e : Ev) (n : Node) (ns : List Node) :
    (consume (f.of n.kind) n e = .blocks ∧
      forward f e (n :: ns) = { nodes := n :: ns, outs := (n :: ns).map (fun _ => []), blocked := some 0, sends := 0 }) ∨
    ∃ n' o, Reached e n n' o ∧
      forward f e (n :: ns) =
        { nodes := n' :: (forward f e ns).nodes, outs := o :: (forward f e ns).outs,
          blocked := (forward f e ns).blocked.map (· + 1), sends := (forward f e ns).sends + 1 } := by
  have hr := consume_cases (f.of n.kind) n e
  rw [forward]
  cases hc : consume (f.of n.kind) n e with
  | blocks => exact .inl ⟨rfl, rfl⟩
  | handled n' o => rw [hc] at hr; exact .inr ⟨n', o, hr, rfl⟩
  | queued n' => rw [hc] at hr; exact .inr ⟨n', [], hr, rfl⟩
  | dropped => rw [hc] at hr; exact .inr ⟨n, [], hr, rfl⟩

theorem forward_length (f : Facts) (e : Ev) : ∀ ns : List Node, (forward f e ns).nodes.length = ns.length
  | [] => rfl
  | n :: ns => by
    rcases forward_cons f e n ns with ⟨_, h⟩ | ⟨n', o, _, h⟩
    · rw [h]
    · rw [h]; exact congrArg (· + 1) (forward_length f e ns)

theorem forward_pointwise (f : Facts) (e : Ev) :
    ∀ (ns : List Node) (i : Nat) (n : Node), ns[i]? = some n →
      (∀ b, (forward f e ns).blocked = some b → i < b) →
      ∃ n' o, (forward f e ns).nodes[i]? = some n' ∧ (forward f e ns).outs[i]? = some o ∧ Reached e n n' o
  | [], i, n, hi, _ => by simp at hi
  | m :: ms, i, n, hi, hb => by
    rcases forward_cons f e m ms with ⟨_, h⟩ | ⟨m', o, hr, h⟩
    · rw [h] at hb; exact absurd (hb 0 rfl) (Nat.not_lt_zero i)
    · rw [h] at hb ⊢
      cases i with
      | zero => cases hi; exact ⟨m', o, rfl, rfl, hr⟩
      | succ j =>
        exact forward_pointwise f e ms j n hi (fun b hbb => Nat.lt_of_succ_lt_succ (hb (b + 1) (by simp [hbb])))

theorem forward_beyond (f : Facts) (e : Ev) :
    ∀ (ns : List Node) (b i : Nat), (forward f e ns).blocked = some b → b ≤ i →
      (forward f e ns).nodes[i]? = ns[i]? ∧ (forward f e ns).outs[i]? = (ns[i]?).map (fun _ => [])
  | [], b, i, hb, _ => by cases hb
  | m :: ms, b, i, hb, hbi => by
    rcases forward_cons f e m ms with ⟨_, h⟩ | ⟨m', o, _, h⟩
    · rw [h]; exact ⟨rfl, List.getElem?_map⟩
    · rw [h] at hb ⊢
      obtain ⟨b', hb', rfl⟩ := Option.map_eq_some_iff.mp hb
      cases i with
      | zero => cases hbi
      | succ j => exact forward_beyond f e ms b' j hb' (Nat.le_of_succ_le_succ hbi)

theorem forward_blocked_at (f : Facts) (e : Ev) :
    ∀ (ns : List Node) (b : Nat), (forward f e ns).blocked = some b →
      ∃ n, ns[b]? = some n ∧ consume (f.of n.kind) n e = .blocks := by
  intro ns
  induction ns with
  | nil => intro b hb; cases hb
  | cons m ms ih =>
    intro b hb
    rcases forward_cons f e m ms with ⟨hc, h⟩ | ⟨m', o, _, h⟩
    · rw [h] at hb; cases hb; exact ⟨m, rfl, hc⟩
    · rw [h] at hb
      obtain ⟨b', hb', rfl⟩ := Option.map_eq_some_iff.mp hb
      exact ih b' hb'

theorem forward_returns (f : Facts) (e : Ev) :
    ∀ (ns : List Node), (∀ n ∈ ns, consume (f.of n.kind) n e ≠ .blocks) →
      (forward f e ns).blocked = none ∧ (forward f e ns).sends = ns.length
  | [], _ => ⟨rfl, rfl⟩
  | m :: ms, hnb => by
    obtain ⟨h1, h2⟩ := forward_returns f e ms (fun n hn => hnb n (List.mem_cons_of_mem m hn))
    rcases forward_cons f e m ms with ⟨hc, _⟩ | ⟨m', o, _, h⟩
    · exact absurd hc (hnb m List.mem_cons_self)
    · rw [h, h1, h2]; exact ⟨rfl, rfl⟩

def outsAt (i : Nat) (t : Tagged) : List Out := (t.filter (fun p => p.1 == i)).map (·.2)

theorem outsAt_nil (i : Nat) : outsAt i [] = [] := rfl

theorem outsAt_append (i : Nat) (a b : Tagged) : outsAt i (a ++ b) = outsAt i a ++ outsAt i b := by
  simp only [outsAt, List.filter_append, List.map_append]

theorem outsAt_map (i k : Nat) (os : List Out) : outsAt i (os.map (fun o => (k, o))) = if k = i then os else [] := by
  by_cases h : k = i <;> simp [outsAt, List.filter_map, Function.comp_def, h]

theorem outsAt_tag (i : Nat) : ∀ (outs : List (List Out)) (k : Nat),
    outsAt i (tag k outs) = if k ≤ i then (outs[i - k]?).getD [] else []
  | [], k => by rw [tag, List.getElem?_nil, Option.getD_none, ite_self]; rfl
  | os :: rest, k => by
    rw [tag, outsAt_append, outsAt_map, outsAt_tag i rest (k + 1)]
    rcases Nat.lt_trichotomy k i with h | rfl | h
    · have hd : i - k = i - (k + 1) + 1 := (Nat.succ_pred_eq_of_pos (Nat.sub_pos_of_lt h)).symm
      rw [if_neg (Nat.ne_of_lt h), if_pos (show k + 1 ≤ i from h), if_pos (Nat.le_of_lt h), hd]
      rfl
    · rw [if_pos rfl, if_neg (Nat.not_succ_le_self k), if_pos (Nat.le_refl k), Nat.sub_self]
      exact List.append_nil os
    · rw [if_neg (Nat.ne_of_gt h), if_neg (Nat.not_le_of_gt (Nat.lt_succ_of_lt h)), if_neg (Nat.not_le_of_gt h)]
      rfl

/-- everything operations other than this node's own `NextAction` can do to a node: a running reader handles an
event, or an event is put into the buffer of a reader that is not running -/
inductive Steps : Node → Node → List Out → Prop
  | refl (n : Node) : Steps n n []
  | byHandle {n n' : Node} {o : List Out} (e : Ev) : n.loopStarted = true →
      Steps (handle n (.event e)).1 n' o → Steps n n' ((handle n (.event e)).2 ++ o)
  | byEnqueue {n n' : Node} {o : List Out} (e : Ev) : n.loopStarted = false →
      Steps { n with inbox := n.inbox ++ [Msg.event e] } n' o → Steps n n' o

theorem Steps.trans {a b c : Node} {o1 o2 : List Out} (h1 : Steps a b o1) (h2 : Steps b c o2) :
    Steps a c (o1 ++ o2) := by
  induction h1 with
  | refl n => exact h2
  | byHandle e hr _ ih => rw [List.append_assoc]; exact Steps.byHandle e hr (ih h2)
  | byEnqueue e hr _ ih => exact Steps.byEnqueue e hr (ih h2)

theorem Steps.one_handle (n : Node) (e : Ev) (h : n.loopStarted = true) :
    Steps n (handle n (.event e)).1 (handle n (.event e)).2 := by
  have := Steps.byHandle e h (Steps.refl (handle n (.event e)).1)
  rwa [List.append_nil] at this

theorem Steps.of_reached {e : Ev} {n n' : Node} {o : List Out} (h : Reached e n n' o) : Steps n n' o := by
  cases h with
  | handled hr => exact Steps.one_handle n e hr
  | dropped _ => exact Steps.refl n
  | queued hnr => exact Steps.byEnqueue e hnr (Steps.refl _)

theorem Steps.loopStarted {n n' : Node} {o : List Out} (h : Steps n n' o) : n'.loopStarted = n.loopStarted := by
  induction h with
  | refl n => rfl
  | byHandle e _ _ ih => rw [ih, handle_loopStarted]
  | byEnqueue e _ _ ih => rw [ih]

theorem Steps.conserve {n n' : Node} {o : List Out} (h : Steps n n' o) (hk : n.kind = .catch_) :
    releasedOf o ++ n'.parked = n.parked := by
  induction h with
  | refl n => rfl
  | @byHandle n n' o e _ _ ih =>
    rw [releasedOf_append, List.append_assoc, ih (by rw [handle_kind, hk])]
    exact (handle_conserve n (.event e) hk).trans (List.append_nil _)
  | byEnqueue e _ _ ih => exact ih hk

theorem Steps.inactive_running {n n' : Node} {o : List Out} (h : Steps n n' o) (hk : n.kind = .catch_)
    (ha : n.activated = false) (hr : n.loopStarted = true) : n' = n ∧ o = [] := by
  induction h with
  | refl n => exact ⟨rfl, rfl⟩
  | @byHandle n n' o e _ _ ih =>
    rw [handle_event_inactive n e hk ha] at ih ⊢
    exact ih hk ha hr
  | byEnqueue e hnr _ _ => rw [hr] at hnr; cases hnr

theorem Steps.unreached {n n' : Node} {o : List Out} (h : Steps n n' o) (hnr : n.loopStarted = false) :
    ({ n' with inbox := [] } : Node) = { n with inbox := [] } ∧ o = [] := by
  induction h with
  | refl n => exact ⟨rfl, rfl⟩
  | byHandle e hr _ _ => rw [hr] at hnr; cases hnr
  | byEnqueue e _ _ ih => exact ih hnr

theorem Steps.kept {P : Node → Prop} (hP : Stable P) {n n' : Node} {o : List Out} (h : Steps n n' o) (hn : P n) :
    P n' := by
  induction h with
  | refl n => exact hn
  | byHandle e _ _ ih => exact ih (hP.handle _ _ hn)
  | byEnqueue e _ _ ih => exact ih (hP.enqueue _ e hn)

structure Delivers (s s' : Sys) (out : Tagged) : Prop where
  length : s'.nodes.length = s.nodes.length
  waiting : ∀ w ∈ s.waiting, w ∈ s'.waiting
  steps : ∀ i n, s.nodes[i]? = some n → ∃ n', s'.nodes[i]? = some n' ∧ Steps n n' (outsAt i out)

theorem Delivers.refl (s : Sys) : Delivers s s [] :=
  ⟨rfl, fun _ h => h, fun _ n h => ⟨n, h, Steps.refl n⟩⟩

theorem Delivers.trans {a b c : Sys} {o1 o2 : Tagged} (h1 : Delivers a b o1) (h2 : Delivers b c o2) :
    Delivers a c (o1 ++ o2) :=
  { length := h2.length.trans h1.length
    waiting w hw := h2.waiting w (h1.waiting w hw)
    steps i n hn := by
      obtain ⟨n1, hn1, st1⟩ := h1.steps i n hn
      obtain ⟨n2, hn2, st2⟩ := h2.steps i n1 hn1
      exact ⟨n2, hn2, by rw [outsAt_append]; exact st1.trans st2⟩ }

theorem forward_index (f : Facts) (e : Ev) :
    ∀ (ns : List Node) (i : Nat) (n : Node), ns[i]? = some n →
      ∃ n' o, (forward f e ns).nodes[i]? = some n' ∧ (forward f e ns).outs[i]? = some o ∧ Steps n n' o
  | [], i, n, hi => by simp at hi
  | m :: ms, i, n, hi => by
    rcases forward_cons f e m ms with ⟨_, h⟩ | ⟨m', o, hr, h⟩
    · rw [h]; exact ⟨n, [], hi, by rw [List.getElem?_map, hi]; rfl, Steps.refl n⟩
    · rw [h]
      cases i with
      | zero => cases hi; exact ⟨m', o, rfl, rfl, Steps.of_reached hr⟩
      | succ j => exact forward_index f e ms j n hi

theorem forwardFrom_delivers (f : Facts) (e : Ev) (k : Nat) (s : Sys) :
    Delivers s (forwardFrom f e k s).1 (forwardFrom f e k s).2 :=
  { length := by
      simp only [forwardFrom, List.length_append, forward_length f e _, List.length_take, List.length_drop]
      omega
    waiting w hw := List.mem_append_left _ hw
    steps i n hn := by
      obtain ⟨hl, _⟩ := List.getElem?_eq_some_iff.mp hn
      simp only [forwardFrom, outsAt_tag]
      by_cases hik : i < k
      · rw [if_neg (Nat.not_le_of_gt hik), List.getElem?_append_left (by rw [List.length_take]; omega),
          List.getElem?_take_of_lt hik]
        exact ⟨n, hn, Steps.refl n⟩
      · obtain ⟨j, rfl⟩ := Nat.exists_eq_add_of_le (Nat.le_of_not_lt hik)
        obtain ⟨n', o, h1, h2, h3⟩ := forward_index f e (s.nodes.drop k) j n (by rw [List.getElem?_drop]; exact hn)
        have hlen : (s.nodes.take k).length = k := by rw [List.length_take]; omega
        rw [if_pos (Nat.le_add_right k j), Nat.add_sub_cancel_left, h2,
          List.getElem?_append_right (by rw [hlen]; exact Nat.le_add_right k j), hlen, Nat.add_sub_cancel_left]
        exact ⟨n', h1, h3⟩ }

theorem handleAt_delivers (s : Sys) (j : Nat) (m : Node) (e : Ev) (hj : s.nodes[j]? = some m)
    (hr : m.loopStarted = true) :
    Delivers s { s with nodes := s.nodes.set j (handle m (.event e)).1 }
      ((handle m (.event e)).2.map (fun o => (j, o))) :=
  { length := List.length_set
    waiting _ hw := hw
    steps i n hn := by
      rw [outsAt_map]
      by_cases hij : j = i
      · subst hij
        rw [hj] at hn; cases hn
        obtain ⟨hl, _⟩ := List.getElem?_eq_some_iff.mp hj
        exact ⟨_, List.getElem?_set_self hl, by rw [if_pos rfl]; exact Steps.one_handle m e hr⟩
      · exact ⟨n, by rw [← hn]; exact List.getElem?_set_ne hij, by rw [if_neg hij]; exact Steps.refl n⟩ }

theorem wake_delivers (f : Facts) (j : Nat) :
    ∀ (ws : List Waiting) (s : Sys) (m : Node), s.nodes[j]? = some m → m.loopStarted = true →
      ∃ s' out, (∀ acc, wake f j ws s acc = (s', acc ++ out)) ∧ Delivers s s' out
  | [], s, _, _, _ => ⟨s, [], fun acc => by rw [List.append_nil]; rfl, Delivers.refl s⟩
  | w :: ws, s, m, hj, hr => by
    have d := (handleAt_delivers s j m w.ev hj hr).trans (forwardFrom_delivers f w.ev (j + 1) _)
    obtain ⟨m', hj', st⟩ := d.steps j m hj
    obtain ⟨s', out, hw, d'⟩ := wake_delivers f j ws _ m' hj' (st.loopStarted.trans hr)
    refine ⟨s', _, fun acc => ?_, d.trans d'⟩
    rw [wake]
    simp only [hj]
    rw [hw]
    simp only [List.append_assoc]

def started (n : Node) : Node × List Out := runMsgs { n with loopStarted := true, inbox := [] } n.inbox

def woken (f : Facts) (i : Nat) (s : Sys) (n : Node) : Sys × Tagged :=
  wake f i (s.waiting.filter (fun w => w.pos == i))
    { nodes := s.nodes.set i (started n).1, waiting := s.waiting.filter (fun w => w.pos != i) }
    ((started n).2.map (fun o => (i, o)))

/-- the inbox messages of `NextAction` (catch event) and of `Trigger` followed by `NextAction` (start event) -/
def lastMsgs (kind : NodeKind) (t : TokId) : List Msg :=
  match kind with
  | .catch_ => [.next t]
  | .start => [.start, .next t]

/-- `arrive` in its three phases: the reader starts on the buffer (`started`), the blocked senders are let in
(`woken`), the reader finds the token's own messages (`lastMsgs`) -/
theorem arrive_eq (f : Facts) (i : Nat) (t : TokId) (s : Sys) (n n2 : Node) (hn : s.nodes[i]? = some n)
    (hn2 : (woken f i s n).1.nodes[i]? = some n2) :
    arrive f i t s =
      ({ (woken f i s n).1 with nodes := (woken f i s n).1.nodes.set i (runMsgs n2 (lastMsgs n.kind t)).1 },
       (woken f i s n).2 ++ (runMsgs n2 (lastMsgs n.kind t)).2.map (fun o => (i, o))) := by
  unfold woken started at hn2
  unfold arrive woken started lastMsgs
  simp only [hn]
  generalize wake f i _ _ _ = r at hn2 ⊢
  obtain ⟨s2, o2⟩ := r
  simp only at hn2 ⊢
  cases hk : n.kind <;> simp [hn2, runMsgs]

theorem arrive_catch (f : Facts) (i : Nat) (t : TokId) (s : Sys) (n n2 : Node) (hn : s.nodes[i]? = some n)
    (hk : n.kind = .catch_) (hn2 : (woken f i s n).1.nodes[i]? = some n2) :
    arrive f i t s =
      ({ (woken f i s n).1 with nodes := (woken f i s n).1.nodes.set i (handle n2 (.next t)).1 },
       (woken f i s n).2 ++ (handle n2 (.next t)).2.map (fun o => (i, o))) := by
  rw [arrive_eq f i t s n n2 hn hn2, hk]
  simp [lastMsgs, runMsgs]

theorem started_frame (n : Node) : (started n).1.kind = n.kind ∧ (started n).1.loopStarted = true :=
  ⟨runMsgs_kept (kind_stable n.kind) _ _ rfl, runMsgs_kept running_stable _ _ rfl⟩

def arrivedAt (i : Nat) : List Op → List TokId
  | [] => []
  | .arrive j t :: ops => if j = i then t :: arrivedAt i ops else arrivedAt i ops
  | .deliver _ :: ops => arrivedAt i ops

inductive Moved (i : Nat) (op : Op) (n n' : Node) (out : List Out) : Prop
  | delivered : arrivedAt i [op] = [] → Steps n n' out → Moved i op n n' out
  /-- token `t` reaches it: its reader starts on the buffer, is delivered the events of the callers blocked on it
  (that is `n2`), and finds the token's messages -/
  | reached (t : TokId) (n2 : Node) (o : List Out) : op = .arrive i t → Steps (started n).1 n2 o →
      n' = (runMsgs n2 (lastMsgs n.kind t)).1 →
      out = (started n).2 ++ o ++ (runMsgs n2 (lastMsgs n.kind t)).2 → Moved i op n n' out

structure Stepped (s : Sys) (op : Op) (r : Sys × Tagged) : Prop where
  length : r.1.nodes.length = s.nodes.length
  waiting : ∀ w ∈ s.waiting, (∀ t, op ≠ .arrive w.pos t) → w ∈ r.1.waiting
  moved : ∀ i n, s.nodes[i]? = some n → ∃ n', r.1.nodes[i]? = some n' ∧ Moved i op n n' (outsAt i r.2)

theorem step_spec (f : Facts) (s : Sys) (op : Op) : Stepped s op (step f s op) := by
  cases op with
  | deliver e =>
    have d := forwardFrom_delivers f e 0 s
    exact ⟨d.length, fun w hw _ => d.waiting w hw, fun i n hn => (d.steps i n hn).imp fun n' h => ⟨h.1, .delivered rfl h.2⟩⟩
  | arrive j t =>
    simp only [step]
    cases hj : s.nodes[j]? with
    | none =>
      rw [show arrive f j t s = (s, []) by unfold arrive; simp only [hj]]
      refine ⟨rfl, fun w hw _ => hw, fun i n hn => ⟨n, hn, .delivered ?_ (Steps.refl n)⟩⟩
      have hji : j ≠ i := fun h => by rw [h, hn] at hj; cases hj
      simp [arrivedAt, hji]
    | some m =>
      obtain ⟨hl, _⟩ := List.getElem?_eq_some_iff.mp hj
      have hjj : (s.nodes.set j (started m).1)[j]? = some (started m).1 := List.getElem?_set_self hl
      obtain ⟨s2, out, hw, d⟩ := wake_delivers f j (s.waiting.filter (fun w => w.pos == j))
        { nodes := s.nodes.set j (started m).1, waiting := s.waiting.filter (fun w => w.pos != j) } _ hjj
        (started_frame m).2
      obtain ⟨n2, hn2, st⟩ := d.steps j _ hjj
      rw [arrive_eq f j t s m n2 hj (by rw [woken, hw]; exact hn2), woken, hw]
      refine ⟨by simp [d.length], fun w hw hne => d.waiting w (List.mem_filter.mpr ⟨hw, ?_⟩), fun i n hn => ?_⟩
      · simpa using fun h => hne t (by rw [h])
      simp only [outsAt_append, outsAt_map]
      by_cases hji : j = i
      · subst hji
        rw [hn] at hj; cases hj
        obtain ⟨hl2, _⟩ := List.getElem?_eq_some_iff.mp hn2
        exact ⟨_, List.getElem?_set_self hl2, .reached t n2 _ rfl st rfl (by simp)⟩
      · obtain ⟨n', hn', st'⟩ := d.steps i n (by rw [← hn]; exact List.getElem?_set_ne hji)
        refine ⟨n', by rw [← hn']; exact List.getElem?_set_ne hji, .delivered (by simp [arrivedAt, hji]) ?_⟩
        simpa [hji] using st'

theorem runOps_induction {I : Sys → Prop} (f : Facts) :
    ∀ (ops : List Op) (s : Sys), (∀ op ∈ ops, ∀ s, I s → I (step f s op).1) → I s → I (runOps f s ops).1
  | [], _, _, h => h
  | op :: ops, s, hI, h =>
    runOps_induction f ops _ (fun op' hop => hI op' (List.mem_cons_of_mem op hop)) (hI op List.mem_cons_self s h)

theorem runOps_length (f : Facts) : ∀ (ops : List Op) (s : Sys), (runOps f s ops).1.nodes.length = s.nodes.length := by
  intro ops s
  exact runOps_induction (I := fun s' => s'.nodes.length = s.nodes.length) f ops s
    (fun op _ s' h => (step_spec f s' op).length.trans h) rfl

theorem init_getElem? (f : Facts) {specs : List NodeSpec} {i : Nat} {sp : NodeSpec} (h : specs[i]? = some sp) :
    (Sys.init f specs).nodes[i]? = some (Node.init f sp.kind sp.incoming sp.defs sp.par) := by
  rw [Sys.init, List.getElem?_map, h]; rfl

theorem init_forall {P : Node → Prop} (f : Facts) (specs : List NodeSpec)
    (h : ∀ sp : NodeSpec, P (Node.init f sp.kind sp.incoming sp.defs sp.par)) : ∀ n ∈ (Sys.init f specs).nodes, P n := by
  intro n hn
  obtain ⟨sp, _, rfl⟩ := List.mem_map.mp hn
  exact h sp

theorem step_kept {P : Node → Prop} (hP : Stable P) (f : Facts) (s : Sys) (op : Op)
    (h : ∀ n ∈ s.nodes, P n) : ∀ n ∈ (step f s op).1.nodes, P n := by
  intro n' hn'
  obtain ⟨k, hk⟩ := List.mem_iff_getElem?.mp hn'
  obtain ⟨hl, _⟩ := List.getElem?_eq_some_iff.mp hk
  rw [(step_spec f s op).length] at hl
  have hm : P s.nodes[k] := h _ (List.getElem_mem hl)
  obtain ⟨m', hm', moved⟩ := (step_spec f s op).moved k _ (List.getElem?_eq_getElem hl)
  rw [hk] at hm'; cases hm'
  cases moved with
  | delivered _ st => exact st.kept hP hm
  | reached t n2 o _ st hn' _ =>
    rw [hn']
    exact runMsgs_kept hP _ _ (st.kept hP (runMsgs_kept hP _ _ (hP.startReader _ hm)))

theorem runOps_stable {P : Node → Prop} (hP : Stable P) (f : Facts) (ops : List Op) :
    ∀ s : Sys, (∀ n ∈ s.nodes, P n) → ∀ n ∈ (runOps f s ops).1.nodes, P n :=
  fun s => runOps_induction (I := fun s => ∀ n ∈ s.nodes, P n) f ops s (fun op _ s => step_kept hP f s op)

/-- Nothing but events is ever left in a buffer: a token's own messages are sent once its reader runs. -/
def OnlyEvents (n : Node) : Prop := ∃ evs : List Ev, n.inbox = evs.map Msg.event

theorem onlyEvents_stable : Stable OnlyEvents :=
  { handle n m h := by rw [OnlyEvents, handle_inbox]; exact h
    enqueue n e h := h.elim fun evs he => ⟨evs ++ [e], by simp [he]⟩
    startReader _ _ := ⟨[], rfl⟩ }

theorem blocked_forever (f : Facts) (w : Waiting) (ops : List Op) (s : Sys) (h : w ∈ s.waiting)
    (hops : ∀ op ∈ ops, ∀ t, op ≠ .arrive w.pos t) : w ∈ (runOps f s ops).1.waiting := by
  refine runOps_induction (I := fun s => w ∈ s.waiting) f ops s (fun op hop s h => ?_) h
  exact (step_spec f s op).waiting w h (hops op hop)

def CtorRunning (f : Facts) (n : Node) : Prop := (f.of n.kind).readerAtConstruction = true → n.loopStarted = true

theorem ctorRunning_stable (f : Facts) : Stable (CtorRunning f) :=
  { handle n m h := by unfold CtorRunning; rw [handle_kind, handle_loopStarted]; exact h
    enqueue _ _ h := h
    startReader _ _ _ := rfl }

theorem no_block_of_kind_ok (f : Facts) (n : Node) (hok : (f.of n.kind).ok = true) (h : CtorRunning f n) (e : Ev) :
    consume (f.of n.kind) n e ≠ .blocks := by
  intro hb
  have hc := consume_cases (f.of n.kind) n e
  rw [hb] at hc
  obtain ⟨h1, h2, _, h4⟩ := hc
  unfold InboxFacts.ok at hok
  rw [h2, h4, Bool.or_false, Bool.or_false] at hok
  exact absurd ((h hok).symm.trans h1) (by decide)

theorem no_block_of_ok (f : Facts) (hok : f.ok = true) (n : Node) (h : CtorRunning f n) (e : Ev) :
    consume (f.of n.kind) n e ≠ .blocks := by
  refine no_block_of_kind_ok f n ?_ h e
  unfold Facts.ok at hok
  cases n.kind <;> simp_all [Facts.of]

theorem deliver_returns (f : Facts) (e : Ev) (s : Sys) (h : ∀ n ∈ s.nodes, consume (f.of n.kind) n e ≠ .blocks) :
    (deliver f e s).1.waiting = s.waiting := by
  simp only [deliver, forwardFrom, List.drop_zero, (forward_returns f e s.nodes h).1, List.append_nil]

theorem wake_nil (f : Facts) (i : Nat) (s : Sys) (acc : Tagged) : wake f i [] s acc = (s, acc) := rfl

theorem arrive_waiting_nil (f : Facts) (i : Nat) (t : TokId) (s : Sys) (h : s.waiting = []) :
    (arrive f i t s).1.waiting = [] := by
  unfold arrive
  cases hn : s.nodes[i]? with
  | none => exact h
  | some m =>
    simp only [h, List.filter_nil, wake_nil]
    split <;> rfl

theorem runOps_no_waiting (f : Facts) (hok : f.ok = true) (ops : List Op) (s : Sys) (h1 : s.waiting = [])
    (h2 : ∀ n ∈ s.nodes, CtorRunning f n) :
    (runOps f s ops).1.waiting = [] ∧ ∀ n ∈ (runOps f s ops).1.nodes, CtorRunning f n := by
  refine runOps_induction (I := fun s => s.waiting = [] ∧ ∀ n ∈ s.nodes, CtorRunning f n) f ops s
    (fun op _ s h => ⟨?_, step_kept (ctorRunning_stable f) f s op h.2⟩) ⟨h1, h2⟩
  cases op with
  | deliver e => exact (deliver_returns f e s (fun n hn => no_block_of_ok f hok n (h.2 n hn) e)).trans h.1
  | arrive i t => exact arrive_waiting_nil f i t s h.1

theorem deliver_single (f : Facts) (n : Node) (e : Ev) (ws : List Waiting) (hnr : n.loopStarted = false)
    (hg : (f.of n.kind).sendOnlyWhenRunning = false) (hnb : (f.of n.kind).sendNonBlocking = false) :
    deliver f e { nodes := [n], waiting := ws } =
      if n.inbox.length < (f.of n.kind).cap n.incoming then
        ({ nodes := [{ n with inbox := n.inbox ++ [Msg.event e] }], waiting := ws }, [])
      else ({ nodes := [n], waiting := ws ++ [{ ev := e, pos := 0 }] }, []) := by
  by_cases hroom : n.inbox.length < (f.of n.kind).cap n.incoming <;>
    simp [deliver, forwardFrom, forward, consume, hnr, hg, hnb, hroom, tag]

theorem fill_unreached (f : Facts) (e : Ev) :
    ∀ (j : Nat) (n : Node), n.loopStarted = false → (f.of n.kind).sendOnlyWhenRunning = false →
      (f.of n.kind).sendNonBlocking = false → n.inbox.length + j ≤ (f.of n.kind).cap n.incoming →
      runOps f { nodes := [n], waiting := [] } (List.replicate j (Op.deliver e)) =
        ({ nodes := [{ n with inbox := n.inbox ++ List.replicate j (Msg.event e) }], waiting := [] }, []) := by
  intro j
  induction j with
  | zero => intro n _ _ _ _; simp [runOps]
  | succ j ih =>
    intro n hnr hg hnb hle
    simp only [List.replicate_succ, runOps, step]
    rw [deliver_single f n e [] hnr hg hnb, if_pos (by omega)]
    simp only
    rw [ih { n with inbox := n.inbox ++ [Msg.event e] } hnr hg hnb (by simp; omega)]
    simp [List.append_assoc]

/-- Reaching a catch event whose reader was never started: the events in the buffer and those of callers still
blocked on it are worked off first, while the node is not activated; it ends up listening with exactly the arriving
token. -/
theorem arrive_unreached (f : Facts) (i : Nat) (t : TokId) (s : Sys) (n : Node) (hn : s.nodes[i]? = some n)
    (hk : n.kind = .catch_) (ha : n.activated = false) (hp : n.parked = []) (hw : OnlyEvents n) :
    (arrive f i t s).1.nodes[i]? = some { n with loopStarted := true, inbox := [], activated := true, parked := [t] } ∧
    outsAt i (arrive f i t s).2 = [.listening] := by
  obtain ⟨evs, hev⟩ := hw
  have hst : started n = ({ n with loopStarted := true, inbox := [] }, []) := by
    rw [started, hev, ← List.append_nil (evs.map _)]
    exact runMsgs_events_inactive _ evs [] hk ha
  obtain ⟨n', hn', moved⟩ := (step_spec f s (.arrive i t)).moved i n hn
  cases moved with
  | delivered h0 _ => simp [arrivedAt] at h0
  | reached t' n2 o ht st hn2 ho =>
    cases ht
    rw [hst] at st ho
    obtain ⟨rfl, rfl⟩ := st.inactive_running hk ha rfl
    refine ⟨hn'.trans ?_, ho.trans ?_⟩ <;> simp [hn2, hk, lastMsgs, runMsgs, handle, ha, hp]

theorem runOps_unreached (f : Facts) (ops : List Op) (s : Sys) (i : Nat) (n n' : Node) (hn : s.nodes[i]? = some n)
    (hn' : (runOps f s ops).1.nodes[i]? = some n') (hnr : n'.loopStarted = false) :
    n.loopStarted = false ∧ ({ n' with inbox := [] } : Node) = { n with inbox := [] } := by
  refine runOps_induction f ops s (I := fun s' => ∀ n', s'.nodes[i]? = some n' → n'.loopStarted = false →
    n.loopStarted = false ∧ ({ n' with inbox := [] } : Node) = { n with inbox := [] })
    (fun op _ s' ih n'' hn'' hnr'' => ?_) (fun n' hn' hnr => ?_) n' hn' hnr
  · obtain ⟨hl, _⟩ := List.getElem?_eq_some_iff.mp hn''
    rw [(step_spec f s' op).length] at hl
    obtain ⟨m', hm', moved⟩ := (step_spec f s' op).moved i _ (List.getElem?_eq_getElem hl)
    rw [hn''] at hm'; cases hm'
    cases moved with
    | delivered _ st =>
      have hl' := st.loopStarted.symm.trans hnr''
      obtain ⟨h3, h4⟩ := ih _ (List.getElem?_eq_getElem hl) hl'
      exact ⟨h3, (st.unreached hl').1.trans h4⟩
    | reached t n2 o _ st hn2 _ =>
      -- a node a token has reached is running
      rw [hn2, runMsgs_kept running_stable _ _ (st.loopStarted.trans (started_frame _).2)] at hnr''
      cases hnr''
  · rw [hn] at hn'; cases hn'
    exact ⟨hnr, rfl⟩

theorem arrivedAt_cons (i : Nat) (op : Op) (ops : List Op) : arrivedAt i (op :: ops) = arrivedAt i [op] ++ arrivedAt i ops := by
  cases op with
  | deliver e => rfl
  | arrive j t => by_cases h : j = i <;> simp [arrivedAt, h]

theorem step_conserve (f : Facts) (s : Sys) (op : Op) (i : Nat) (n : Node) (hn : s.nodes[i]? = some n)
    (hw : OnlyEvents n) (hk : n.kind = .catch_) :
    ∃ n', (step f s op).1.nodes[i]? = some n' ∧ n'.kind = .catch_ ∧
      releasedOf (outsAt i (step f s op).2) ++ n'.parked = n.parked ++ arrivedAt i [op] := by
  obtain ⟨n', hn', moved⟩ := (step_spec f s op).moved i n hn
  cases moved with
  | delivered h0 st => exact ⟨n', hn', st.kept (kind_stable _) hk, by rw [h0, List.append_nil]; exact st.conserve hk⟩
  | reached t n2 o hop st hn2 ho =>
    subst hop hn2
    have hk1 : (started n).1.kind = .catch_ := (started_frame n).1.trans hk
    have hk2 : n2.kind = .catch_ := st.kept (kind_stable _) hk1
    refine ⟨_, hn', runMsgs_kept (kind_stable _) _ _ hk2, ?_⟩
    have c1 := runMsgs_conserve { n with loopStarted := true, inbox := [] } n.inbox hk
    obtain ⟨evs, hev⟩ := hw
    rw [hev, arrivalsOf_events, List.append_nil, ← hev] at c1
    have c3 := runMsgs_conserve n2 (lastMsgs n.kind t) hk2
    rw [ho, releasedOf_append, releasedOf_append, List.append_assoc, List.append_assoc, c3,
      ← List.append_assoc (releasedOf o), st.conserve hk1, ← List.append_assoc]
    rw [show releasedOf (started n).2 ++ (started n).1.parked = n.parked from c1, hk]
    simp [lastMsgs, arrivalsOf, arrivedAt]

theorem runOps_conserve (f : Facts) : ∀ (ops : List Op) (s : Sys), (∀ n ∈ s.nodes, OnlyEvents n) →
    ∀ (i : Nat) (n : Node), s.nodes[i]? = some n → n.kind = .catch_ →
      ∃ n', (runOps f s ops).1.nodes[i]? = some n' ∧ n'.kind = .catch_ ∧
        releasedOf (outsAt i (runOps f s ops).2) ++ n'.parked = n.parked ++ arrivedAt i ops
  | [], s, _, i, n, hn, hk => ⟨n, hn, hk, (List.append_nil _).symm⟩
  | op :: ops, s, hwf, i, n, hn, hk => by
    obtain ⟨n1, h1, hk1, c1⟩ := step_conserve f s op i n hn (hwf n (List.mem_of_getElem? hn)) hk
    obtain ⟨n', h2, hk2, c2⟩ := runOps_conserve f ops (step f s op).1 (step_kept onlyEvents_stable f s op hwf) i n1 h1 hk1
    refine ⟨n', h2, hk2, ?_⟩
    simp only [runOps, outsAt_append, releasedOf_append]
    rw [arrivedAt_cons, List.append_assoc, c2, ← List.append_assoc, c1, List.append_assoc]

end Bpmn.Model.CatchEvent
