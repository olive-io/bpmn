import Bpmn.Model.Cancel
/-! What a step of the cancellation protocol model (C07) does, and the invariant of a cancelled instance. -/
namespace Bpmn.Model.Cancel

theorem getElem?_split {α} {l : List α} {i : Nat} {a : α} (h : l[i]? = some a) :
    ∃ l₁ l₂, l = l₁ ++ a :: l₂ ∧ l.eraseIdx i = l₁ ++ l₂ ∧ ∀ b, l.set i b = l₁ ++ b :: l₂ := by
  obtain ⟨hi, rfl⟩ := List.getElem?_eq_some_iff.1 h
  refine ⟨l.take i, l.drop (i + 1), ?_, List.eraseIdx_eq_take_drop_succ l i, fun b => ?_⟩
  · rw [List.getElem_cons_drop hi, List.take_append_drop]
  · rw [List.set_eq_take_append_cons_drop, if_pos hi]

theorem stepActor_some {s s' : St} {i : Nat} (h : stepActor s i = some s') :
    ∃ a, s.live[i]? = some a ∧ a.enabled s = true ∧
      ((a.todo = [] ∧ s' = { s with live := s.live.eraseIdx i,
                                    pending := if a.registered && a.callsDone then s.pending - 1 else s.pending }) ∨
       ∃ x rest, a.todo = x :: rest ∧ s' = { s with live := s.live.set i { a with todo := rest } }) := by
  unfold stepActor at h
  split at h
  · cases h
  · next a ha =>
    split at h
    · next he =>
      refine ⟨a, ha, he, ?_⟩
      split at h
      · next ht => exact .inl ⟨ht, (Option.some.inj h).symm⟩
      · next x rest ht => exact .inr ⟨x, rest, ht, (Option.some.inj h).symm⟩
    · cases h

theorem stepActor_isSome {s : St} {i : Nat} {a : Actor} (ha : s.live[i]? = some a) (he : a.enabled s = true) :
    (stepActor s i).isSome = true := by
  unfold stepActor
  rw [ha]
  simp only
  rw [if_pos he]
  cases a.todo <;> rfl

theorem stepActor_none {s : St} (h : ∀ a ∈ s.live, a.enabled s = false) (i : Nat) : stepActor s i = none := by
  unfold stepActor
  split
  · rfl
  · next a ha => rw [if_neg (by rw [h a (List.mem_of_getElem? ha)]; exact Bool.false_ne_true)]

theorem measure_eq_zero {s : St} : measure s = 0 ↔ s.live = [] := by
  unfold measure
  cases s.live with
  | nil => simp
  | cons a l => simp only [List.map_cons, List.sum_cons, reduceCtorEq, iff_false]; omega

theorem actorSteps_cons (l : Label) (ls : List Label) :
    actorSteps (l :: ls) = actorSteps ls + if l = .poll then 0 else 1 := by
  cases l <;> rfl

/-- what a goroutine of a kind that passes `Kind.ok` looks like once the instance is cancelled: registration and
`Done()` go together, every blocking operation ahead is passable, only registered goroutines send -/
def Actor.good (a : Actor) : Prop :=
  a.registered = a.callsDone ∧
  ∀ act ∈ a.todo, match act with
    | .block o => o.passable = true
    | .send => a.registered = true

/-- the invariant of a cancelled instance. `count` is `St.wf.count` with `countP` for `filter … length`, the form
the step lemmas count in (`inv_of_wf` converts) -/
structure Inv (s : St) : Prop where
  cancelled : s.cancelled = true
  good : ∀ a ∈ s.live, a.good
  count : s.pending = s.live.countP (fun a => a.registered)
  done : s.tracerDone = true → s.pending = 0
  closed : s.tracerDone = true → s.subsClosed = true

/-- no live goroutine is parked: a blocking operation is passable and the instance is cancelled; a sender is
counted, so the tracer is still serving -/
theorem inv_enabled {s : St} (h : Inv s) {a : Actor} (ha : a ∈ s.live) : a.enabled s = true := by
  unfold Actor.enabled
  cases ht : a.todo with
  | nil => rfl
  | cons act rest =>
    have hact := (h.good a ha).2 act (by rw [ht]; exact List.mem_cons_self)
    cases act with
    | block o =>
      simp only [Op.passable, Bool.or_eq_true] at hact
      simp only [h.cancelled, Bool.and_true, Bool.or_eq_true]
      exact hact
    | send =>
      have hpos : 0 < s.live.countP (fun a => a.registered) := List.countP_pos_iff.mpr ⟨a, ha, hact⟩
      cases hd : s.tracerDone with
      | false => rfl
      | true => have := h.done hd; have := h.count; omega

theorem no_deadlock {s : St} (h : Inv s) {i : Nat} (hi : i < s.live.length) : (stepActor s i).isSome = true :=
  stepActor_isSome (List.getElem?_eq_getElem hi) (inv_enabled h (List.getElem_mem hi))

theorem inv_step {s s' : St} (h : Inv s) {i : Nat} (hs : stepActor s i = some s') :
    Inv s' ∧ measure s' + 1 = measure s ∧ s'.polls = s.polls := by
  obtain ⟨a, hget, -, hs'⟩ := stepActor_some hs
  obtain ⟨l₁, l₂, hl, herase, hset⟩ := getElem?_split hget
  have hg := h.good a (List.mem_of_getElem? hget)
  have hcount := h.count
  simp only [measure]
  rw [hl] at hcount ⊢
  simp only [List.countP_append, List.countP_cons] at hcount
  rcases hs' with ⟨ht, rfl⟩ | ⟨x, rest, ht, rfl⟩
  · -- the goroutine returns: registered ones call `Done()`, so the counter keeps counting the registered
    refine ⟨⟨h.cancelled, fun b hb => h.good b (List.mem_of_mem_eraseIdx hb), ?_, ?_, h.closed⟩, ?_, rfl⟩
    · show (if (a.registered && a.callsDone) = true then s.pending - 1 else s.pending) = _
      rw [herase, List.countP_append, ← hg.1, Bool.and_self]
      split
      · next hr => rw [if_pos hr] at hcount; omega
      · next hr => rw [if_neg hr] at hcount; omega
    · intro hd
      have := h.done hd
      show (if (a.registered && a.callsDone) = true then s.pending - 1 else s.pending) = 0
      split <;> omega
    · simp only [herase, ht, List.map_append, List.map_cons, List.sum_append, List.sum_cons, List.length_nil]
      omega
  · refine ⟨⟨h.cancelled, fun b hb => ?_, ?_, h.done, h.closed⟩, ?_, rfl⟩
    · rcases List.mem_or_eq_of_mem_set hb with hb | rfl
      · exact h.good b hb
      · exact ⟨hg.1, fun act hact => hg.2 act (by rw [ht]; exact List.mem_cons_of_mem _ hact)⟩
    · show s.pending = _
      rw [hset, List.countP_append, List.countP_cons]
      exact hcount
    · simp only [hset, ht, List.map_append, List.map_cons, List.sum_append, List.sum_cons, List.length_cons]
      omega

theorem poll_polls_le (s : St) : (poll s).polls ≤ s.polls + 1 := by
  unfold poll
  split
  · exact Nat.le_succ _
  · split
    · exact Nat.le_succ _
    · exact Nat.le_refl _

theorem inv_poll {s : St} (h : Inv s) : Inv (poll s) ∧ measure (poll s) = measure s := by
  unfold poll
  split
  · exact ⟨h, rfl⟩
  · split
    · next hp => exact ⟨⟨h.cancelled, h.good, h.count, fun _ => hp, fun _ => rfl⟩, rfl⟩
    · exact ⟨⟨h.cancelled, h.good, h.count, h.done, h.closed⟩, rfl⟩

/-- with no goroutine left the counter is zero: the broadcaster's turn ends the tracer and is not a futile one -/
theorem poll_done_of_empty {s : St} (h : Inv s) (he : s.live = []) :
    ((poll s).live = [] ∧ (poll s).tracerDone = true ∧ (poll s).subsClosed = true) ∧ (poll s).polls = s.polls := by
  have hp : s.pending = 0 := by rw [h.count, he]; rfl
  unfold poll
  rw [h.cancelled, hp]
  cases hd : s.tracerDone with
  | true => exact ⟨⟨he, hd, h.closed hd⟩, rfl⟩
  | false => exact ⟨⟨he, rfl, rfl⟩, rfl⟩

theorem run_inv {s : St} (h : Inv s) : ∀ (ls : List Label) {s' : St}, run s ls = some s' →
    Inv s' ∧ measure s' + actorSteps ls = measure s := by
  intro ls
  induction ls generalizing s with
  | nil =>
    intro s' hr
    cases hr
    exact ⟨h, rfl⟩
  | cons l ls ih =>
    intro s' hr
    rw [actorSteps_cons]
    cases l with
    | actor i =>
      simp only [run, step] at hr
      cases hst : stepActor s i with
      | none => rw [hst] at hr; cases hr
      | some s1 =>
        rw [hst] at hr
        have ⟨h1, hm1, _⟩ := inv_step h hst
        have ⟨h2, hm2⟩ := ih h1 hr
        exact ⟨h2, by simp only [reduceCtorEq, if_false]; omega⟩
    | poll =>
      have ⟨h1, hm1⟩ := inv_poll h
      have ⟨h2, hm2⟩ := ih h1 hr
      exact ⟨h2, by simp only [if_true]; omega⟩

theorem inv_progress {s : St} (h : Inv s) (hl : s.live ≠ []) :
    ∃ s1, stepActor s 0 = some s1 ∧ Inv s1 ∧ measure s1 + 1 = measure s ∧ s1.polls = s.polls := by
  have hsome := no_deadlock h (List.length_pos_iff.2 hl)
  cases hst : stepActor s 0 with
  | none => rw [hst] at hsome; cases hsome
  | some s1 => exact ⟨s1, rfl, inv_step h hst⟩

theorem drain_spec : ∀ (n : Nat) {s : St}, Inv s → measure s ≤ n →
    (drain n s).live = [] ∧ (drain n s).tracerDone = true ∧ (drain n s).subsClosed = true := by
  intro n
  induction n with
  | zero =>
    intro s h hm
    exact (poll_done_of_empty h (measure_eq_zero.mp (Nat.le_zero.mp hm))).1
  | succ n ih =>
    intro s h hm
    unfold drain
    cases hl : s.live with
    | nil => exact (poll_done_of_empty h hl).1
    | cons a l =>
      obtain ⟨s1, hst, h1, hm1, _⟩ := inv_progress h (by rw [hl]; exact List.cons_ne_nil a l)
      simp only [hst]
      exact ih h1 (by omega)

theorem drainRR_spec : ∀ (n : Nat) {s : St}, Inv s → measure s ≤ n →
    ((drainRR n s).live = [] ∧ (drainRR n s).tracerDone = true ∧ (drainRR n s).subsClosed = true) ∧
    (drainRR n s).polls ≤ s.polls + measure s := by
  intro n
  induction n with
  | zero =>
    intro s h hm
    have r := poll_done_of_empty h (measure_eq_zero.mp (Nat.le_zero.mp hm))
    exact ⟨r.1, r.2 ▸ Nat.le_add_right _ _⟩
  | succ n ih =>
    intro s h hm
    unfold drainRR
    cases hl : s.live with
    | nil =>
      have r := poll_done_of_empty h hl
      exact ⟨r.1, r.2 ▸ Nat.le_add_right _ _⟩
    | cons a l =>
      obtain ⟨s1, hst, h1, hm1, hp1⟩ := inv_progress h (by rw [hl]; exact List.cons_ne_nil a l)
      simp only [hst]
      have ⟨h2, hm2⟩ := inv_poll h1
      have r := ih h2 (by omega)
      have := poll_polls_le s1
      exact ⟨r.1, by omega⟩

/-- the bridge from the hypotheses of the C07 theorems to the lemmas above -/
theorem inv_of_wf {t : List Kind} (ht : tableOk t = true) {s : St} (h : s.wf t) : Inv (cancel s) := by
  have hserving {p : Prop} (hd : (cancel s).tracerDone = true) : p :=
    absurd (h.serving.symm.trans hd) Bool.false_ne_true
  refine ⟨rfl, ?_, h.count.trans List.countP_eq_length_filter.symm, hserving, hserving⟩
  intro a ha
  obtain ⟨k, hk, hreg, hdone, hacts⟩ := h.kinds a ha
  have hok : k.ok = true := List.all_eq_true.mp ht k hk
  simp only [Kind.ok, Bool.and_eq_true, Bool.or_eq_true, Bool.not_eq_eq_eq_not, Bool.not_true, beq_iff_eq] at hok
  obtain ⟨⟨hops, hsend⟩, hrd⟩ := hok
  refine ⟨by rw [hreg, hdone]; exact hrd, fun act hact => ?_⟩
  have := hacts act hact
  cases act with
  | block o => exact List.all_eq_true.mp hops o this
  | send =>
    rcases hsend with hs | hs
    · exact absurd (hs.symm.trans this) Bool.false_ne_true
    · exact hreg.trans hs

end Bpmn.Model.Cancel
