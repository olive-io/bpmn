import Bpmn.Model.Engine
import Bpmn.Spec.TokenGame
/-!
Lemmas about the engine model (`Bpmn.Model.Engine`). The log `St.causes` carries the argument: some configurations never
write it (`*_quiet`); a step that leaves it empty is the step of the token game (`*_conf`) and, since the token game never
writes the log, started from an empty log (`*_back`); for the functions of `Spec/TokenGame` both at once (`*_unlogged`).
Those functions, with the join decision abstracted, are the engine's (`*_tie`).
-/
namespace Bpmn.Model.Engine

instance : LawfulBEq Tok where
  eq_of_beq {a b} h := by
    obtain ⟨f, n⟩ := a
    obtain ⟨g, m⟩ := b
    simp only [BEq.beq, instBEqTok.beq, Bool.and_eq_true, decide_eq_true_eq] at h
    rw [h.1, h.2]
  rfl {a} := by
    obtain ⟨f, n⟩ := a
    simp [BEq.beq, instBEqTok.beq]

theorem nextTurn_causes (s : St) (node : String) (out : List Tok) : (nextTurn s node out).2.causes = s.causes := by
  unfold nextTurn; split <;> rfl

theorem nextTurn_subs (s : St) (node : String) (out : List Tok) : (nextTurn s node out).2.subs = s.subs := by
  unfold nextTurn; split <;> rfl

theorem nextTurn_idle (s : St) (node : String) (out : List Tok) (h : s.parked.find? (·.node == node) = none) :
    nextTurn s node out = (out, s) := by
  unfold nextTurn; rw [h]

theorem nextTurn_fst (s : St) (node : String) (out : List Tok) :
    (nextTurn s node out).1 = out ++ (s.parked.find? (·.node == node)).toList := by
  unfold nextTurn; split <;> rename_i h <;> simp [h]

end Bpmn.Model.Engine

namespace Bpmn.Lemmas.Engine
open Bpmn.Model Bpmn.Model.Engine Bpmn.Spec.TokenGame

theorem foldl_reflect {α β : Type _} (P : β → Prop) (g1 g2 : β → α → β)
    (h : ∀ b a, P (g1 b a) → P b ∧ g1 b a = g2 b a) :
    ∀ (l : List α) (b : β), P (l.foldl g1 b) → P b ∧ l.foldl g1 b = l.foldl g2 b
  | [], _, hb => ⟨hb, rfl⟩
  | a :: l, b, hb =>
    have h1 := foldl_reflect P g1 g2 h l (g1 b a) hb
    have h2 := h b a h1.1
    ⟨h2.1, by rw [List.foldl_cons, List.foldl_cons, ← h2.2]; exact h1.2⟩

theorem foldl_inv {α β : Type _} (P : β → Prop) (g : β → α → β) (h : ∀ b a, P b → P (g b a)) :
    ∀ (l : List α) (b : β), P b → P (l.foldl g b) := by
  intro l
  induction l with
  | nil => intro b hb; exact hb
  | cons a l ih => intro b hb; exact ih _ (h b a hb)

theorem foldl_proj {α β γ : Type _} (f : β → γ) (g : β → α → β) (h : ∀ b a, f (g b a) = f b)
    (l : List α) (b : β) : f (l.foldl g b) = f b :=
  foldl_inv (fun x => f x = f b) g (fun x a hx => (h x a).trans hx) l b rfl

theorem foldl_answers_congr {σ α β γ : Type _} {f g : σ → α → β → γ → σ} (h : ∀ s a b c, f s a b c = g s a b c)
    {s0 s0' : σ} (h0 : s0 = s0') (l : List (α × β × γ)) :
    l.foldl (fun s (a, b, c) => f s a b c) s0 = l.foldl (fun s (a, b, c) => g s a b c) s0' := by
  rw [h0, show f = g from funext fun s => funext fun a => funext fun b => funext (h s a b)]

/-- token `t` leaves its node over `fls` (the `flowAction` reply); a token that stays is run again -/
def leave (cfg : Cfg) (p : Proc) (s : St) (t : Tok) (fls : List String) : List Tok × St :=
  let r := selectFlows cfg p s t fls false
  (if r.2.1 then t :: r.1 else r.1, r.2.2)

def parStep (cfg : Cfg) (p : Proc) (n : Node) (x : List Tok × St) (fr : Nat × Gateway.Reply) : List Tok × St :=
  match fr.2 with
  | .complete => (x.1, (x.2.emit (.complete n.id)).recordTerm fr.1)
  | .flows lo hi =>
    let r := selectFlows cfg p x.2 { fid := fr.1, node := n.id } ((n.outs.drop lo).take (hi - lo)) true
    (x.1 ++ r.1, r.2.2)

def parCur (s : St) (n : Node) (t : Tok) : List Nat := ((s.pg.find? (·.1 == n.id)).map (·.2)).getD [] ++ [t.fid]
def parFull (s : St) (n : Node) (t : Tok) : Bool :=
  (parCur s n t).length == n.ins.length || (n.ins.isEmpty && (parCur s n t).length == 1)

section
variable {cfg : Cfg} {p : Proc} {s : St} {t : Tok} {n : Node}

theorem arrive_none_eq (hn : p.node? t.node = none) :
    arrive cfg p s t = ([], s.oos s!"unknown node {t.node}") := by
  simp only [arrive, hn]

theorem arrive_task_eq (hn : p.node? t.node = some n) (hk : n.kind = .task) :
    arrive cfg p s t =
      ([], { ((bumpOcc s n.id).2.emit (.req n.id)) with pending := s.pending ++ [(t, (bumpOcc s n.id).1)] }) := by
  simp only [arrive, hn, hk]; rfl

theorem arrive_start_eq (hn : p.node? t.node = some n) (hk : n.kind = .start) :
    arrive cfg p s t =
      if s.activated.contains n.id then ([], (s.emit (.complete n.id)).recordTerm t.fid)
      else leave cfg p { s with activated := n.id :: s.activated } t n.outs := by
  simp only [arrive, hn, hk]; rfl

theorem arrive_end_eq (hn : p.node? t.node = some n) (hk : n.kind = .end_) :
    arrive cfg p s t =
      ([], ({ s with activated := if s.activated.contains n.id then s.activated else n.id :: s.activated }.emit
        (.complete n.id)).recordTerm t.fid) := by
  simp only [arrive, hn, hk]

theorem arrive_xor_eq (hn : p.node? t.node = some n) (hk : n.kind = .xor) :
    arrive cfg p s t =
      let ev := evalFlows p s (n.outs.filter (fun f => some f != n.dflt)) false
      match Gateway.xgDecide ev.1 n.dflt with
      | .take fl => ((selectFlows cfg p ev.2 t [fl] true).1, (selectFlows cfg p ev.2 t [fl] true).2.2)
      | .error => ([], { (ev.2.emit (.err "noeffective-exclusive")) with parked := ev.2.parked ++ [t] }) := by
  simp only [arrive, hn, hk]; rfl

/-- the replies go out in the order of the waiting tokens, or — scheduling variant — the consumed tokens first -/
theorem arrive_par_eq (hn : p.node? t.node = some n) (hk : n.kind = .par) :
    arrive cfg p s t =
      if parFull s n t then
        let pairs := (parCur s n t).zip (Gateway.distribute (parCur s n t).length n.outs.length)
        (if cfg.eagerSettle then pairs.filter (·.2 == .complete) ++ pairs.filter (·.2 != .complete) else pairs).foldl
          (parStep cfg p n) ([], { s with pg := s.pg.filter (·.1 != n.id) })
      else ([], { s with pg := s.pg.filter (·.1 != n.id) ++ [(n.id, parCur s n t)] }) := by
  simp only [arrive, hn, hk]; rfl

theorem arrive_incl_eq (hn : p.node? t.node = some n) (hk : n.kind = .incl) :
    arrive cfg p s t =
      match (igGet s n.id).activated with
      | none => ([], igSet s { igGet s n.id with activated := some t.fid, arrived := [t.fid], sync := [] })
      | some _ => ([], igSet s { igGet s n.id with arrived := (igGet s n.id).arrived ++ [t.fid],
                                                   sync := (igGet s n.id).sync ++ [t.fid] }) := by
  simp only [arrive, hn, hk]; rfl

theorem arrive_sub_eq (hn : p.node? t.node = some n) (hk : n.kind = .sub) :
    arrive cfg p s t =
      if s.subs.any (·.node == n.id) then ([], { s with parked := s.parked ++ [t] })
      else spawnStarts (enterSub cfg s t n (p.nodes.filter (fun m => m.parent == n.id && m.kind == .start)))
        (p.nodes.filter (fun m => m.parent == n.id && m.kind == .start)) := by
  simp only [arrive, hn, hk]

theorem arrive_throw_eq (hn : p.node? t.node = some n) (hk : n.kind = .throw_) :
    arrive cfg p s t =
      if cfg.throwFuse && s.activated.contains n.id then
        ([], (((s.cause "throw_fused").emit (.complete n.id)).recordTerm t.fid))
      else leave cfg p { s with activated := if s.activated.contains n.id then s.activated else n.id :: s.activated }
        t n.outs := by
  simp only [arrive, hn, hk]; rfl

theorem arrive_throw_passes (hn : p.node? t.node = some n) (hk : n.kind = .throw_) (htf : cfg.throwFuse = false) :
    arrive cfg p s t =
      leave cfg p { s with activated := if s.activated.contains n.id then s.activated else n.id :: s.activated }
        t n.outs := by
  rw [arrive_throw_eq hn hk, htf]; rfl

theorem arrive_parks_eq (hn : p.node? t.node = some n)
    (hk : n.kind = .ebg ∨ n.kind = .catch_ ∨ n.kind = .boundary ∨ n.kind = .other) :
    arrive cfg p s t = ([], { s with parked := s.parked ++ [t] }) := by
  rcases hk with hk | hk | hk | hk <;> simp only [arrive, hn, hk]

theorem settleSubs_idle (h : s.subs.find? (fun t => !liveInScope p s t.node []) = none) :
    settleSubs cfg p s = ([], s) := by
  simp only [settleSubs, h]

/-- the token game's branch: the parent token leaves the finished sub-process, the next waiting token takes its turn -/
theorem settleSubs_returns (hr : cfg.subNeverReturns = false)
    (h : s.subs.find? (fun t => !liveInScope p s t.node []) = some t) :
    settleSubs cfg p s =
      let s1 := { s with subs := s.subs.filter (· != t),
                         subFired := if s.subFired.contains t.node then s.subFired else t.node :: s.subFired }
      match p.node? t.node with
      | none => ([], s1)
      | some n => nextTurn (leave cfg p s1 t n.outs).2 t.node (leave cfg p s1 t n.outs).1 := by
  simp only [settleSubs, h, hr, Bool.false_eq_true, if_false]; rfl

end

/-- `answerPrep` read off with a single unfolding; the configuration enters only through `leave` -/
theorem answerPrep_plan (p : Proc) (s : St) (node : String) (occ : Nat) (a : Answer) :
    ∃ k : Option ((List Tok × St) ⊕ (St × Tok × List String)),
      (∀ cfg, answerPrep cfg p s node occ a = k.map (Sum.elim id fun x => leave cfg p x.1 x.2.1 x.2.2)) ∧
      ∀ x ∈ k, (Sum.elim Prod.snd Prod.fst x).causes = s.causes ∧ (Sum.elim Prod.snd Prod.fst x).subs = s.subs := by
  unfold answerPrep
  simp only
  split
  · cases a with
    | ok results => exact ⟨some (.inr (_, _, _)), fun _ => rfl, by rintro _ ⟨⟩; exact ⟨rfl, rfl⟩⟩
    | err mode retries =>
      simp only
      split
      · split
        · exact ⟨some (.inl (_, _)), fun _ => rfl, by rintro _ ⟨⟩; exact ⟨rfl, rfl⟩⟩
        · exact ⟨some (.inl (_, _)), fun _ => rfl, by rintro _ ⟨⟩; exact ⟨rfl, rfl⟩⟩
      · exact ⟨some (.inl (_, _)), fun _ => rfl, by rintro _ ⟨⟩; exact ⟨rfl, rfl⟩⟩
      · exact ⟨some (.inr (_, _, _)), fun _ => rfl, by rintro _ ⟨⟩; exact ⟨rfl, rfl⟩⟩
  · exact ⟨none, fun _ => rfl, by rintro _ ⟨⟩⟩

theorem answerPrep_cases (p : Proc) (s : St) (node : String) (occ : Nat) (a : Answer) :
    (∀ cfg, answerPrep cfg p s node occ a = none) ∨
    (∃ toks s1, (∀ cfg, answerPrep cfg p s node occ a = some (toks, s1)) ∧ s1.causes = s.causes ∧ s1.subs = s.subs) ∨
    (∃ s1 t fls, (∀ cfg, answerPrep cfg p s node occ a = some (leave cfg p s1 t fls)) ∧
      s1.causes = s.causes ∧ s1.subs = s.subs) := by
  obtain ⟨k, hk, hf⟩ := answerPrep_plan p s node occ a
  match k with
  | none => exact Or.inl hk
  | some (.inl r) => exact Or.inr (Or.inl ⟨r.1, r.2, hk, hf _ rfl⟩)
  | some (.inr x) => exact Or.inr (Or.inr ⟨x.1, x.2.1, x.2.2, hk, hf _ rfl⟩)

theorem cause_ne_nil (s : St) (c : String) : (s.cause c).causes ≠ [] := by
  unfold St.cause
  split
  · rename_i h
    intro e
    rw [e] at h
    cases h
  · exact List.append_ne_nil_of_right_ne_nil _ (List.cons_ne_nil _ _)

theorem mem_cause (s : St) (c : String) : c ∈ (s.cause c).causes := by
  unfold St.cause
  split
  · rename_i h; exact List.contains_iff_mem.mp h
  · exact List.mem_append_right _ (List.mem_singleton_self c)

@[simp] theorem emit_causes (s : St) (o : Obs) : (s.emit o).causes = s.causes := rfl
@[simp] theorem recordTerm_causes (s : St) (f : Nat) : (s.recordTerm f).causes = s.causes := rfl
@[simp] theorem setTags_causes (s : St) (f : Nat) (ts : List Nat) : (s.setTags f ts).causes = s.causes := rfl
@[simp] theorem recordFlow_causes (s : St) (p : Proc) (src : String) (fids : List Nat) :
    (s.recordFlow p src fids).causes = s.causes := rfl
@[simp] theorem igSet_causes (s : St) (g : IgSt) : (igSet s g).causes = s.causes := rfl
@[simp] theorem bumpOcc_causes (s : St) (n : String) : (bumpOcc s n).2.causes = s.causes := rfl

@[simp] theorem oos_causes (s : St) (why : String) : (s.oos why).causes = s.causes := by
  unfold St.oos; split <;> rfl

@[simp] theorem inherit_causes (s : St) (parent : Nat) (kids : List Nat) :
    (s.inherit parent kids).causes = s.causes := by
  unfold St.inherit
  exact foldl_proj (fun s : St => s.causes) _ (by intro _ _; rfl) _ _

@[simp] theorem evalFlow_causes (p : Proc) (s : St) (fl : String) (u : Bool) :
    (evalFlow p s fl u).2.causes = s.causes := by
  unfold evalFlow
  split
  · rfl
  · split
    · rfl
    · split <;> rfl

@[simp] theorem evalFlows_causes (p : Proc) (s : St) (fls : List String) (u : Bool) :
    (evalFlows p s fls u).2.causes = s.causes := by
  unfold evalFlows
  exact foldl_proj (fun x : List (String × Bool) × St => x.2.causes) _ (fun _ _ => evalFlow_causes ..) _ _

@[simp] theorem forkToks_causes (p : Proc) (s : St) (fls : List String) :
    (forkToks p s fls).2.causes = s.causes := by
  unfold forkToks
  exact foldl_proj (fun x : List Tok × St => x.2.causes) _ (by intro _ _; rfl) _ _

@[simp] theorem spawnStarts_causes (s : St) (starts : List Node) : (spawnStarts s starts).2.causes = s.causes := by
  unfold spawnStarts
  exact foldl_proj (fun x : List Tok × St => x.2.causes) _ (by intro _ _; rfl) _ _

@[simp] theorem igRelease_causes (p : Proc) (s : St) (n : Node) (g : IgSt) :
    (igRelease p s n g).2.causes = s.causes := by
  unfold igRelease
  simp only
  split
  · simp
  · rw [foldl_proj (fun x : List Tok × St => x.2.causes)]
    · simp only
      rw [foldl_proj (fun s : St => s.causes)]
      · simp
      · intro _ _; rfl
    · intro b a
      obtain ⟨f, r⟩ := a
      simp only
      split
      · simp
      · split <;> simp

section
variable {cfg : Cfg} {p : Proc}

theorem selectFlows_quiet (hff : cfg.firstFlowDecides = false) (s : St) (t : Tok) (fls : List String) (u : Bool) :
    (selectFlows cfg p s t fls u).2.2.causes = s.causes := by
  unfold selectFlows
  split
  · rfl
  · simp only [hff, Bool.false_and, Bool.false_eq_true, if_false]
    split <;> simp

theorem leave_quiet (hff : cfg.firstFlowDecides = false) (s : St) (t : Tok) (fls : List String) :
    (leave cfg p s t fls).2.causes = s.causes := selectFlows_quiet hff ..

theorem parStep_quiet (hff : cfg.firstFlowDecides = false) (n : Node) (x : List Tok × St) (fr : Nat × Gateway.Reply) :
    (parStep cfg p n x fr).2.causes = x.2.causes := by
  unfold parStep
  split
  · rfl
  · exact selectFlows_quiet hff ..

theorem enterSub_quiet (hs : cfg.subStartSticky = false) (s : St) (t : Tok) (n : Node) (starts : List Node) :
    (enterSub cfg s t n starts).causes = s.causes := by
  simp only [enterSub, hs, Bool.false_and, Bool.false_eq_true, if_false]

/-- the sticky-start switch is read at sub-process nodes only -/
theorem arrive_quiet (hff : cfg.firstFlowDecides = false) (htf : cfg.throwFuse = false) (s : St) (t : Tok)
    (hs : cfg.subStartSticky = false ∨ ∀ n, p.node? t.node = some n → n.kind ≠ .sub) :
    (arrive cfg p s t).2.causes = s.causes := by
  cases hn : p.node? t.node with
  | none => rw [arrive_none_eq hn]; exact oos_causes ..
  | some n =>
    cases hk : n.kind with
    | task => rw [arrive_task_eq hn hk]; rfl
    | start => rw [arrive_start_eq hn hk]; split; rfl; exact leave_quiet hff ..
    | end_ => rw [arrive_end_eq hn hk]; rfl
    | xor =>
      rw [arrive_xor_eq hn hk]
      simp only
      split
      · exact (selectFlows_quiet hff ..).trans (evalFlows_causes ..)
      · simp only [emit_causes, evalFlows_causes]
    | par =>
      rw [arrive_par_eq hn hk]
      cases parFull s n t
      · rfl
      · exact foldl_proj (fun x : List Tok × St => x.2.causes) _ (parStep_quiet hff n) _ _
    | incl => rw [arrive_incl_eq hn hk]; split <;> rfl
    | sub =>
      rw [arrive_sub_eq hn hk]
      split
      · rfl
      · rw [spawnStarts_causes, enterSub_quiet (hs.resolve_right fun h => h n hn hk)]
    | throw_ => rw [arrive_throw_passes hn hk htf]; exact leave_quiet hff ..
    | ebg | catch_ | boundary | other => rw [arrive_parks_eq hn (by simp [hk])]

/-- the switch is read only when a sub-process has finished -/
theorem settleSubs_quiet (hff : cfg.firstFlowDecides = false) (s : St)
    (hr : cfg.subNeverReturns = false ∨ s.subs = []) : (settleSubs cfg p s).2.causes = s.causes := by
  cases hd : s.subs.find? (fun t => !liveInScope p s t.node []) with
  | none => rw [settleSubs_idle hd]
  | some t =>
    have hr : cfg.subNeverReturns = false := hr.resolve_right fun h => by rw [h] at hd; cases hd
    rw [settleSubs_returns hr hd]
    simp only
    split
    · rfl
    · rw [nextTurn_causes, leave_quiet hff]

end

section
variable {cfg : Cfg} {p : Proc} {s : St} {t : Tok}

theorem selectFlows_conf (cfg : Cfg) (p : Proc) (s : St) (t : Tok) (fls : List String) (u : Bool) :
    (selectFlows cfg p s t fls u).2.2.causes = [] → selectFlows cfg p s t fls u = selectFlows Cfg.ideal p s t fls u := by
  unfold selectFlows
  split
  · exact fun _ => rfl
  · simp only
    split
    · exact fun _ => rfl
    · split
      · simp only [inherit_causes, recordFlow_causes, forkToks_causes]
        exact fun h => absurd h (cause_ne_nil _ _)
      · exact fun _ => rfl

theorem selectFlows_back (cfg : Cfg) (p : Proc) (s : St) (t : Tok) (fls : List String) (u : Bool)
    (h : (selectFlows cfg p s t fls u).2.2.causes = []) : s.causes = [] := by
  rw [← selectFlows_quiet (cfg := Cfg.ideal) rfl s t fls u, ← selectFlows_conf cfg p s t fls u h]
  exact h

theorem leave_conf {fls : List String} (h : (leave cfg p s t fls).2.causes = []) :
    leave cfg p s t fls = leave Cfg.ideal p s t fls := by
  unfold leave
  rw [selectFlows_conf cfg p s t fls false h]

theorem parStep_conf {n : Node} {x : List Tok × St} {fr : Nat × Gateway.Reply}
    (h : (parStep cfg p n x fr).2.causes = []) : parStep cfg p n x fr = parStep Cfg.ideal p n x fr := by
  obtain ⟨f, r⟩ := fr
  cases r with
  | complete => rfl
  | flows lo hi =>
    simp only [parStep] at h ⊢
    rw [selectFlows_conf _ _ _ _ _ _ h]

theorem parStep_back {n : Node} {x : List Tok × St} {fr : Nat × Gateway.Reply}
    (h : (parStep cfg p n x fr).2.causes = []) : x.2.causes = [] := by
  rw [← parStep_quiet (cfg := Cfg.ideal) rfl n x fr, ← parStep_conf h]
  exact h

theorem filter_not_eq_self {α : Type _} (l : List α) (q : α → Bool) (h : l.any q = false) :
    l.filter (fun a => !q a) = l :=
  List.filter_eq_self.mpr fun a ha => by simpa using List.any_eq_false.mp h a ha

theorem enterSub_conf (cfg : Cfg) (s : St) (t : Tok) (n : Node) (starts : List Node) :
    (enterSub cfg s t n starts).causes = [] → enterSub cfg s t n starts = enterSub Cfg.ideal s t n starts := by
  unfold enterSub
  cases hs : cfg.subStartSticky
  · exact fun _ => rfl
  · simp only [Bool.true_and, if_true, Cfg.ideal, Bool.false_and, Bool.false_eq_true, if_false]
    split
    · split <;> exact fun h => absurd h (cause_ne_nil _ _)
    · split
      · exact fun h => absurd h (cause_ne_nil _ _)
      · rename_i hany
        intro _
        -- no inner start event is still activated: re-arming them changes nothing
        rw [filter_not_eq_self _ _ (Bool.eq_false_iff.mpr hany)]

/-- the only configuration switch `arrive` reads besides the deviation switches is the scheduling variant -/
theorem arrive_conf' (cfg : Cfg) (p : Proc) (s : St) (t : Tok) (h : (arrive cfg p s t).2.causes = []) :
    arrive cfg p s t = arrive { Cfg.ideal with eagerSettle := cfg.eagerSettle } p s t := by
  cases hn : p.node? t.node with
  | none => rw [arrive_none_eq hn, arrive_none_eq hn]
  | some n =>
    cases hk : n.kind with
    | task => rw [arrive_task_eq hn hk, arrive_task_eq hn hk]
    | start =>
      rw [arrive_start_eq hn hk] at h ⊢
      rw [arrive_start_eq hn hk]
      split
      · rfl
      · rename_i ha
        rw [if_neg ha] at h
        exact leave_conf h
    | end_ => rw [arrive_end_eq hn hk, arrive_end_eq hn hk]
    | xor =>
      rw [arrive_xor_eq hn hk] at h ⊢
      rw [arrive_xor_eq hn hk]
      simp only at h ⊢
      split
      · rename_i hd
        rw [hd] at h
        rw [selectFlows_conf _ _ _ _ _ _ h]
        rfl
      · rfl
    | par =>
      rw [arrive_par_eq hn hk] at h ⊢
      rw [arrive_par_eq hn hk]
      cases hf : parFull s n t
      · rfl
      · rw [hf] at h
        exact (foldl_reflect (fun x : List Tok × St => x.2.causes = []) _ _
          (fun _ _ h => ⟨parStep_back h, parStep_conf h⟩) _ _ h).2
    | incl => rw [arrive_incl_eq hn hk, arrive_incl_eq hn hk]
    | sub =>
      rw [arrive_sub_eq hn hk] at h ⊢
      rw [arrive_sub_eq hn hk]
      split
      · rfl
      · rename_i hc
        rw [if_neg hc, spawnStarts_causes] at h
        rw [enterSub_conf _ _ _ _ _ h]
        rfl
    | throw_ =>
      rw [arrive_throw_passes hn hk (cfg := { Cfg.ideal with eagerSettle := cfg.eagerSettle }) rfl]
      cases htf : cfg.throwFuse
      · rw [arrive_throw_passes hn hk htf] at h ⊢
        exact leave_conf h
      · rw [arrive_throw_eq hn hk, htf, Bool.true_and] at h ⊢
        cases ha : s.activated.contains n.id
        · rw [ha, if_neg Bool.false_ne_true] at h
          rw [if_neg Bool.false_ne_true]
          exact leave_conf h
        · rw [ha, if_pos rfl, recordTerm_causes, emit_causes] at h
          exact absurd h (cause_ne_nil s _)
    | ebg | catch_ | boundary | other => rw [arrive_parks_eq hn (by simp [hk]), arrive_parks_eq hn (by simp [hk])]

theorem arrive_back (cfg : Cfg) (p : Proc) (s : St) (t : Tok) (h : (arrive cfg p s t).2.causes = []) :
    s.causes = [] := by
  rw [← arrive_quiet (cfg := { Cfg.ideal with eagerSettle := cfg.eagerSettle }) rfl rfl s t (Or.inl rfl),
    ← arrive_conf' cfg p s t h]
  exact h

theorem arrive_conf (cfg : Cfg) (he : cfg.eagerSettle = false) (p : Proc) (s : St) (t : Tok)
    (h : (arrive cfg p s t).2.causes = []) : arrive cfg p s t = arrive Cfg.ideal p s t := by
  rw [arrive_conf' cfg p s t h, he]
  rfl

end

theorem settleIncl_tie (cfg : Cfg) (p : Proc) (s : St) (work : List Tok) :
    settleInclW (igReady cfg) p s work = settleIncl cfg p s work := rfl

theorem settle_tie (cfg : Cfg) (p : Proc) (s : St) :
    settleW (igReady cfg) cfg p s = settle cfg p s := by
  unfold settleW settle settleSubs
  rw [settleIncl_tie]
  generalize settleIncl cfg p s [] = r
  obtain ⟨x, s'⟩ := r
  cases x <;> rfl

theorem settle_eq (cfg : Cfg) (p : Proc) (s : St) :
    settle cfg p s =
      match (settleIncl cfg p s []).1 with
      | some x => (x, (settleIncl cfg p s []).2)
      | none => settleSubs cfg p (settleIncl cfg p s []).2 := by
  rw [← settle_tie]
  rfl

theorem runWork_tie (cfg : Cfg) (p : Proc) : ∀ (fuel : Nat) (toks : List Tok) (s : St),
    runWorkW (igReady cfg) cfg p fuel toks s = runWork cfg p fuel toks s := by
  intro fuel
  induction fuel with
  | zero => intro toks s; rfl
  | succ k ih =>
    intro toks s
    cases toks with
    | nil =>
      simp only [runWorkW, runWork, settle_tie, ih]
    | cons t rest =>
      simp only [runWorkW, runWork, settleIncl_tie, ih]
      rfl

theorem start_tie (cfg : Cfg) (p : Proc) (vars : Vars) : startW (igReady cfg) cfg p vars = Engine.start cfg p vars := by
  simp only [startW, Engine.start, runWork_tie]

theorem answer_tie (cfg : Cfg) (p : Proc) (s : St) (node : String) (occ : Nat) (a : Answer) :
    answerW (igReady cfg) cfg p s node occ a = Engine.answer cfg p s node occ a := by
  unfold answerW answerPrep Engine.answer
  simp only [runWork_tie]
  cases hf : List.find? (fun q => q.1.node == node && q.2 == occ) ({ s with obs := [] } : St).pending with
  | none => rfl
  | some q =>
    obtain ⟨t, k⟩ := q
    cases hn : p.node? node with
    | none => rfl
    | some n =>
      simp only
      cases a with
      | ok results => rfl
      | err mode retries =>
        match mode with
        | 0 => rfl
        | 1 =>
          simp only
          generalize (retries == -1 || _) = c
          cases c <;> rfl
        | 2 => rfl
        | 3 => rfl
        | m + 4 => rfl

theorem answer_cases (cfg : Cfg) (p : Proc) (s : St) (node : String) (occ : Nat) (a : Answer) :
    (∃ why, answer cfg p s node occ a = ({ s with obs := [] } : St).oos why) ∨
    (∃ toks s1, answer cfg p s node occ a = runWork cfg p (fuelFor p) toks s1 ∧
      s1.causes = s.causes ∧ s1.subs = s.subs) ∨
    (∃ s1 t fls, answer cfg p s node occ a =
        runWork cfg p (fuelFor p) (leave cfg p s1 t fls).1 (leave cfg p s1 t fls).2 ∧
      s1.causes = s.causes ∧ s1.subs = s.subs) := by
  rw [← answer_tie, answerW]
  rcases answerPrep_cases p s node occ a with hq | ⟨toks, s1, hq, hc⟩ | ⟨s1, t, fls, hq, hc⟩
  · exact Or.inl ⟨_, by rw [hq cfg]⟩
  · exact Or.inr (Or.inl ⟨toks, s1, by rw [hq cfg, ← runWork_tie], hc⟩)
  · exact Or.inr (Or.inr ⟨s1, t, fls, by rw [hq cfg, ← runWork_tie], hc⟩)

/-- the decision procedure never shrinks the log -/
def Back (r : Ready) : Prop := ∀ p s n g work, (r p s n g work).2.causes = [] → s.causes = []
/-- `r1` decides like `r2` (and leaves the same state) whenever it logs nothing -/
def Conf (r1 r2 : Ready) : Prop :=
  ∀ p s n g work, (r1 p s n g work).2.causes = [] → r1 p s n g work = r2 p s n g work

theorem settleInclW_unlogged {r1 r2 : Ready} (hb : Back r1) (hc : Conf r1 r2) (p : Proc) (s : St) (work : List Tok)
    (h : (settleInclW r1 p s work).2.causes = []) :
    s.causes = [] ∧ settleInclW r1 p s work = settleInclW r2 p s work := by
  refine foldl_reflect (fun x : Option (List Tok) × St => x.2.causes = []) _ _ (fun b n h => ?_) _ _ h
  obtain ⟨x, s⟩ := b
  cases x with
  | some x => exact ⟨h, rfl⟩
  | none =>
    have hr : (r1 p s n (igGet s n.id) work).2.causes = [] := by
      revert h
      simp only
      split
      · rw [igRelease_causes]; exact id
      · exact id
    exact ⟨hb _ _ _ _ _ hr, by simp only [hc _ _ _ _ _ hr]⟩

theorem settleInclW_none (r : Ready) {p : Proc} (hno : p.nodes.filter (·.kind == .incl) = []) (s : St)
    (work : List Tok) : settleInclW r p s work = (none, s) := by
  simp only [settleInclW, hno, List.foldl_nil]

theorem ite_pair_snd {α β : Type _} (c : Prop) [Decidable c] (a b : α) (s : β) :
    (if c then (a, s) else (b, s)).2 = s := by split <;> rfl

theorem settle_noIncl (cfg : Cfg) {p : Proc} (hno : p.nodes.filter (·.kind == .incl) = []) (s : St) :
    settle cfg p s = settleSubs cfg p s := by
  rw [← settle_tie, settleW, settleInclW_none _ hno]

theorem settleSubs_conf (cfg : Cfg) (p : Proc) (s : St) (h : (settleSubs cfg p s).2.causes = []) :
    settleSubs cfg p s = settleSubs Cfg.ideal p s := by
  cases hd : s.subs.find? (fun t => !liveInScope p s t.node []) with
  | none => rw [settleSubs_idle hd, settleSubs_idle hd]
  | some t =>
    cases hr : cfg.subNeverReturns with
    | false =>
      rw [settleSubs_returns hr hd] at h ⊢
      rw [settleSubs_returns rfl hd]
      simp only at h ⊢
      split
      · rfl
      · rename_i n hn
        simp only [hn, nextTurn_causes] at h
        rw [leave_conf h]
    | true =>
      -- the deviation is logged before anything else happens
      exfalso
      revert h
      simp only [settleSubs, hd, hr, if_true]
      split
      · rw [ite_pair_snd]
        exact fun h => absurd (selectFlows_back _ _ _ _ _ _ h) (cause_ne_nil _ _)
      · exact cause_ne_nil _ _

theorem settleSubs_back (cfg : Cfg) (p : Proc) (s : St) (h : (settleSubs cfg p s).2.causes = []) : s.causes = [] := by
  rw [← settleSubs_quiet (cfg := Cfg.ideal) (p := p) rfl s (Or.inl rfl), ← settleSubs_conf cfg p s h]
  exact h

section
variable {r1 r2 : Ready} (hb : Back r1) (hc : Conf r1 r2) (cfg : Cfg) (p : Proc)
include hb hc

theorem settleW_unlogged (s : St) (h : (settleW r1 cfg p s).2.causes = []) :
    s.causes = [] ∧ settleW r1 cfg p s = settleW r2 Cfg.ideal p s := by
  unfold settleW at h ⊢
  cases hsi : settleInclW r1 p s [] with
  | mk x s' =>
    rw [hsi] at h
    have hi : s'.causes = [] → s.causes = [] ∧ settleInclW r2 p s [] = (x, s') := fun h' => by
      have := settleInclW_unlogged hb hc p s [] (by rw [hsi]; exact h')
      exact ⟨this.1, this.2.symm.trans hsi⟩
    cases x with
    | some x => exact ⟨(hi h).1, by rw [(hi h).2]⟩
    | none =>
      have hs := hi (settleSubs_back cfg p s' h)
      exact ⟨hs.1, by rw [hs.2]; exact settleSubs_conf cfg p s' h⟩

theorem runWorkW_unlogged (he : cfg.eagerSettle = false) : ∀ (fuel : Nat) (toks : List Tok) (s : St),
    (runWorkW r1 cfg p fuel toks s).causes = [] →
    s.causes = [] ∧ runWorkW r1 cfg p fuel toks s = runWorkW r2 Cfg.ideal p fuel toks s := by
  intro fuel
  induction fuel with
  | zero => intro toks s h; exact ⟨by rwa [runWorkW, oos_causes] at h, rfl⟩
  | succ k ih =>
    intro toks s
    cases toks with
    | nil =>
      simp only [runWorkW]
      intro h
      have hs : (settleW r1 cfg p s).2.causes = [] := by
        revert h
        split
        · exact id
        · exact fun h => (ih _ _ h).1
      obtain ⟨h1, h2⟩ := settleW_unlogged hb hc cfg p s hs
      refine ⟨h1, ?_⟩
      rw [← h2]
      split
      · rfl
      · rename_i hcond
        simp only [hcond] at h
        exact (ih _ _ h).2
    | cons t rest =>
      simp only [runWorkW, he, Bool.false_eq_true, if_false, Cfg.ideal]
      intro h
      obtain ⟨h1, h2⟩ := ih _ _ h
      exact ⟨arrive_back cfg p s t h1, by rw [h2, arrive_conf cfg he p s t h1]; rfl⟩

theorem answerW_unlogged (he : cfg.eagerSettle = false) (s : St) (node : String) (occ : Nat) (a : Answer)
    (h : (answerW r1 cfg p s node occ a).causes = []) :
    s.causes = [] ∧ answerW r1 cfg p s node occ a = answerW r2 Cfg.ideal p s node occ a := by
  unfold answerW at h ⊢
  rcases answerPrep_cases p s node occ a with hp | ⟨toks, s1, hp, hs, _⟩ | ⟨s1, t, fls, hp, hs, _⟩
  · rw [hp, oos_causes] at h
    exact ⟨h, by rw [hp, hp]⟩
  · rw [hp] at h
    obtain ⟨h1, h2⟩ := runWorkW_unlogged hb hc cfg p he _ _ _ h
    exact ⟨hs ▸ h1, by rw [hp, hp]; exact h2⟩
  · rw [hp] at h
    obtain ⟨h1, h2⟩ := runWorkW_unlogged hb hc cfg p he _ _ _ h
    exact ⟨hs ▸ selectFlows_back _ _ _ _ _ _ h1, by rw [hp, hp, ← leave_conf h1]; exact h2⟩

end

theorem ite_cause_back (c : Prop) [Decidable c] (s : St) (nm : String) :
    (if c then s.cause nm else s).causes = [] → s.causes = [] := by
  split
  · exact fun h => absurd h (cause_ne_nil s nm)
  · exact id

theorem igReady_back (cfg : Cfg) : Back (igReady cfg) := by
  intro p s n g work
  unfold igReady
  split
  · exact id
  · simp only
    split
    · exact ite_cause_back _ _ _
    · split <;> exact id

theorem igReady_conf (cfg : Cfg) (hl : cfg.lateJoin = false) : Conf (igReady cfg) (joinOf cfg).ready := by
  intro p s n g work
  unfold igReady joinOf Join.ready
  cases hi : cfg.inclCohort
  · simp only [Bool.false_eq_true, if_false, hl, Join.early, earlyAt]
    cases hg : g.activated <;> simp
  · simp only [if_true, Join.cohortClamped, earlyAt]
    cases hg : g.activated with
    | none => simp
    | some a =>
      simp only
      split
      · intro h; exact absurd h (cause_ne_nil _ _)
      · rename_i hdev
        intro _
        simp only [Prod.mk.injEq, and_true]
        revert hdev
        generalize ((Engine.cohort s a).all fun x => g.arrived.contains x) = c
        generalize lateAt s n a g.arrived work = l
        generalize ((s.tagsOf a).isEmpty || !upstreamLive p s n.id work g.arrived) = u
        cases c <;> cases l <;> cases u <;> simp

theorem joinOf_admissible (cfg : Cfg) : (joinOf cfg).Admissible := by
  intro p s n g work
  unfold joinOf
  cases hi : cfg.inclCohort
  · simp only [Bool.false_eq_true, if_false, Join.early]
    cases hg : g.activated <;> simp
  · simp only [if_true, Join.cohortClamped]
    cases hg : g.activated with
    | none => simp
    | some a =>
      simp only
      generalize ((Engine.cohort s a).all fun x => g.arrived.contains x) = c
      generalize lateAt s n a g.arrived work = l
      generalize earlyAt p s n g work = e
      cases c <;> cases l <;> cases e <;> simp

theorem early_admissible : Join.early.Admissible := joinOf_admissible Cfg.ideal
theorem late_admissible : Join.late.Admissible := by
  intro p s n g work
  unfold Join.late
  cases hg : g.activated with
  | none => rfl
  | some a =>
    simp only
    generalize lateAt s n a g.arrived work = l
    generalize earlyAt p s n g work = e
    cases l <;> cases e <;> simp

theorem igReady_ideal : igReady Cfg.ideal = Join.early.ready := by
  funext p s n g work
  unfold igReady Join.ready Join.early earlyAt
  cases g.activated <;> simp [Cfg.ideal]

theorem igReady_idealLate : igReady Cfg.idealLate = Join.late.ready := by
  funext p s n g work
  unfold igReady Join.ready Join.late earlyAt
  cases g.activated <;> simp [Cfg.idealLate]

/-! ## `inclCohort` and `lateJoin` are read by `igReady` only -/

theorem selectFlows_joinSwitches (cfg : Cfg) (c l : Bool) (p : Proc) (s : St) (t : Tok) (fls : List String) (u : Bool) :
    selectFlows { cfg with inclCohort := c, lateJoin := l } p s t fls u = selectFlows cfg p s t fls u := rfl
theorem arrive_joinSwitches (cfg : Cfg) (c l : Bool) (p : Proc) (s : St) (t : Tok) :
    arrive { cfg with inclCohort := c, lateJoin := l } p s t = arrive cfg p s t := rfl
theorem settleSubs_joinSwitches (cfg : Cfg) (c l : Bool) (p : Proc) (s : St) :
    settleSubs { cfg with inclCohort := c, lateJoin := l } p s = settleSubs cfg p s := rfl
theorem answerPrep_joinSwitches (cfg : Cfg) (c l : Bool) (p : Proc) (s : St) (node : String) (occ : Nat) (a : Answer) :
    answerPrep { cfg with inclCohort := c, lateJoin := l } p s node occ a = answerPrep cfg p s node occ a := rfl

theorem arrive_idealLate (p : Proc) (s : St) (t : Tok) : arrive Cfg.idealLate p s t = arrive Cfg.ideal p s t :=
  arrive_joinSwitches Cfg.ideal false true p s t
theorem settleSubs_idealLate (p : Proc) (s : St) : settleSubs Cfg.idealLate p s = settleSubs Cfg.ideal p s :=
  settleSubs_joinSwitches Cfg.ideal false true p s
theorem answerPrep_idealLate (p : Proc) (s : St) (node : String) (occ : Nat) (a : Answer) :
    answerPrep Cfg.idealLate p s node occ a = answerPrep Cfg.ideal p s node occ a :=
  answerPrep_joinSwitches Cfg.ideal false true p s node occ a

theorem runWorkW_congr {r r' : Ready} {cfg cfg' : Cfg} {p : Proc} (he : cfg.eagerSettle = cfg'.eagerSettle)
    (ha : ∀ s t, arrive cfg p s t = arrive cfg' p s t) (hi : ∀ s w, settleInclW r p s w = settleInclW r' p s w)
    (hs : ∀ s, settleSubs cfg p s = settleSubs cfg' p s) :
    ∀ (fuel : Nat) (toks : List Tok) (s : St), runWorkW r cfg p fuel toks s = runWorkW r' cfg' p fuel toks s := by
  intro fuel
  induction fuel with
  | zero => intro toks s; rfl
  | succ k ih =>
    intro toks s
    cases toks with
    | nil =>
      have : settleW r cfg p s = settleW r' cfg' p s := by simp only [settleW, hi, hs]
      simp only [runWorkW, this, ih]
    | cons t rest => simp only [runWorkW, he, ha, hi, ih]

theorem runWorkW_joinSwitches (r : Ready) (cfg : Cfg) (c l : Bool) (p : Proc) :
    ∀ (fuel : Nat) (toks : List Tok) (s : St),
      runWorkW r { cfg with inclCohort := c, lateJoin := l } p fuel toks s = runWorkW r cfg p fuel toks s :=
  runWorkW_congr rfl (arrive_joinSwitches cfg c l p) (fun _ _ => rfl) (settleSubs_joinSwitches cfg c l p)

/-- without inclusive gateways the decision procedure is never asked -/
theorem runWorkW_noIncl (r r' : Ready) (cfg : Cfg) {p : Proc} (hno : p.nodes.filter (·.kind == .incl) = []) :
    ∀ (fuel : Nat) (toks : List Tok) (s : St), runWorkW r cfg p fuel toks s = runWorkW r' cfg p fuel toks s :=
  runWorkW_congr rfl (fun _ _ => rfl) (fun s w => by rw [settleInclW_none r hno, settleInclW_none r' hno])
    (fun _ => rfl)

theorem answerW_congr {r r' : Ready} {cfg cfg' : Cfg} {p : Proc}
    (hw : ∀ fuel toks s, runWorkW r cfg p fuel toks s = runWorkW r' cfg' p fuel toks s)
    (hp : ∀ s node occ a, answerPrep cfg p s node occ a = answerPrep cfg' p s node occ a)
    (s : St) (node : String) (occ : Nat) (a : Answer) :
    answerW r cfg p s node occ a = answerW r' cfg' p s node occ a := by
  simp only [answerW, hw, hp]

theorem runWork_cons (cfg : Cfg) {p : Proc} (hno : p.nodes.filter (·.kind == .incl) = []) (fuel : Nat) (t : Tok)
    (rest : List Tok) (s : St) :
    runWork cfg p (fuel + 1) (t :: rest) s = runWork cfg p fuel (rest ++ (arrive cfg p s t).1) (arrive cfg p s t).2 := by
  rw [runWork]
  cases cfg.eagerSettle
  · rfl
  · simp only [if_true, ← settleIncl_tie, settleInclW_none _ hno]

theorem runWork_settled {cfg : Cfg} {p : Proc} {s : St} (fuel : Nat) (h : settle cfg p s = ([], s)) (hi : s.ig = []) :
    runWork cfg p (fuel + 1) [] s = s := by
  simp [runWork, h, hi]

theorem runWork_inv {cfg : Cfg} {p : Proc} (P : St → Prop) (hoos : ∀ s why, P s → P (s.oos why))
    (harr : ∀ s t, P s → P (arrive cfg p s t).2) (hsi : ∀ s w, P s → P (settleIncl cfg p s w).2)
    (hset : ∀ s, P s → P (settle cfg p s).2) :
    ∀ (fuel : Nat) (toks : List Tok) (s : St), P s → P (runWork cfg p fuel toks s) := by
  intro fuel
  induction fuel with
  | zero => intro toks s h; exact hoos s _ h
  | succ k ih =>
    intro toks s h
    cases toks with
    | nil =>
      simp only [runWork]
      split
      · exact hset s h
      · exact ih _ _ (hset s h)
    | cons t rest =>
      simp only [runWork]
      split
      · have := hsi _ (rest ++ (arrive cfg p s t).1) (harr s t h)
        split <;> rename_i hs <;> rw [hs] at this <;> exact ih _ _ this
      · exact ih _ _ (harr s t h)

end Bpmn.Lemmas.Engine

/-! ## `subs` is touched by sub-process arrivals and returns only -/

namespace Bpmn.Props.C01Fragment
open Bpmn.Model Bpmn.Model.Engine Bpmn.Lemmas.Engine

@[simp] theorem emit_subs (s : St) (o : Obs) : (s.emit o).subs = s.subs := rfl
@[simp] theorem recordTerm_subs (s : St) (f : Nat) : (s.recordTerm f).subs = s.subs := rfl
@[simp] theorem setTags_subs (s : St) (f : Nat) (ts : List Nat) : (s.setTags f ts).subs = s.subs := rfl
@[simp] theorem recordFlow_subs (s : St) (p : Proc) (src : String) (fids : List Nat) :
    (s.recordFlow p src fids).subs = s.subs := rfl
@[simp] theorem igSet_subs (s : St) (g : IgSt) : (igSet s g).subs = s.subs := rfl
@[simp] theorem bumpOcc_subs (s : St) (n : String) : (bumpOcc s n).2.subs = s.subs := rfl
@[simp] theorem oos_subs (s : St) (why : String) : (s.oos why).subs = s.subs := by
  unfold St.oos; split <;> rfl
@[simp] theorem cause_subs (s : St) (c : String) : (s.cause c).subs = s.subs := by
  unfold St.cause; split <;> rfl

@[simp] theorem inherit_subs (s : St) (parent : Nat) (kids : List Nat) :
    (s.inherit parent kids).subs = s.subs := by
  unfold St.inherit
  exact foldl_proj (fun s : St => s.subs) _ (by intro _ _; rfl) _ _

@[simp] theorem evalFlow_subs (p : Proc) (s : St) (fl : String) (u : Bool) :
    (evalFlow p s fl u).2.subs = s.subs := by
  unfold evalFlow
  split
  · rfl
  · split
    · rfl
    · split <;> rfl

@[simp] theorem evalFlows_subs (p : Proc) (s : St) (fls : List String) (u : Bool) :
    (evalFlows p s fls u).2.subs = s.subs := by
  unfold evalFlows
  exact foldl_proj (fun x : List (String × Bool) × St => x.2.subs) _ (fun _ _ => evalFlow_subs ..) _ _

@[simp] theorem forkToks_subs (p : Proc) (s : St) (fls : List String) : (forkToks p s fls).2.subs = s.subs := by
  unfold forkToks
  exact foldl_proj (fun x : List Tok × St => x.2.subs) _ (by intro _ _; rfl) _ _

@[simp] theorem spawnStarts_subs (s : St) (starts : List Node) : (spawnStarts s starts).2.subs = s.subs := by
  unfold spawnStarts
  exact foldl_proj (fun x : List Tok × St => x.2.subs) _ (by intro _ _; rfl) _ _

theorem selectFlows_subs (cfg : Cfg) (p : Proc) (s : St) (t : Tok) (fls : List String) (u : Bool) :
    (selectFlows cfg p s t fls u).2.2.subs = s.subs := by
  unfold selectFlows
  split
  · rfl
  · simp only
    split
    · simp
    · split <;> simp

theorem parStep_subs (cfg : Cfg) (p : Proc) (n : Node) (x : List Tok × St) (fr : Nat × Gateway.Reply) :
    (parStep cfg p n x fr).2.subs = x.2.subs := by
  unfold parStep
  split
  · rfl
  · exact selectFlows_subs ..

theorem arrive_subs_of_ne_sub (cfg : Cfg) (p : Proc) (s : St) (t : Tok) (h : ∀ n, p.node? t.node = some n → n.kind ≠ .sub) :
    (arrive cfg p s t).2.subs = s.subs := by
  cases hn : p.node? t.node with
  | none => rw [arrive_none_eq hn]; exact oos_subs ..
  | some n =>
    cases hk : n.kind with
    | task => rw [arrive_task_eq hn hk]; rfl
    | start => rw [arrive_start_eq hn hk]; split; rfl; exact selectFlows_subs ..
    | end_ => rw [arrive_end_eq hn hk]; rfl
    | xor =>
      rw [arrive_xor_eq hn hk]
      simp only
      split
      · simp only [selectFlows_subs, evalFlows_subs]
      · simp only [emit_subs, evalFlows_subs]
    | par =>
      rw [arrive_par_eq hn hk]
      cases parFull s n t
      · rfl
      · exact foldl_proj (fun x : List Tok × St => x.2.subs) _ (parStep_subs cfg p n) _ _
    | incl => rw [arrive_incl_eq hn hk]; split <;> rfl
    | sub => exact absurd hk (h n hn)
    | throw_ =>
      rw [arrive_throw_eq hn hk]
      split
      · simp only [recordTerm_subs, emit_subs, cause_subs]
      · exact selectFlows_subs ..
    | ebg | catch_ | boundary | other => rw [arrive_parks_eq hn (by simp [hk])]

end Bpmn.Props.C01Fragment

namespace Bpmn.Props.C12Turns
open Bpmn.Model Bpmn.Model.Engine Bpmn.Lemmas.Engine Bpmn.Props.C01Fragment

theorem node?_id (p : Proc) (x : String) (n : Node) (h : p.node? x = some n) : n.id = x := by
  simpa using List.find?_some h

/-- entering adds the arriving token to `subs`, unless the code's second activation leaves it waiting (`subStartSticky`) -/
theorem enterSub_subs (cfg : Cfg) (s : St) (t : Tok) (n : Node) (starts : List Node) :
    (enterSub cfg s t n starts).subs =
      if (cfg.subStartSticky && s.subFired.contains n.id) = true then s.subs else s.subs ++ [t] := by
  unfold enterSub
  cases cfg.subStartSticky
  · rfl
  · simp only [Bool.true_and, if_true, apply_ite St.subs, cause_subs, ite_self]

theorem arrive_subs (cfg : Cfg) (p : Proc) (s : St) (t : Tok) :
    (arrive cfg p s t).2.subs = s.subs ∨
    ((arrive cfg p s t).2.subs = s.subs ++ [t] ∧ s.subs.any (·.node == t.node) = false) := by
  by_cases h : ∀ n, p.node? t.node = some n → n.kind ≠ .sub
  · exact .inl (arrive_subs_of_ne_sub cfg p s t h)
  · obtain ⟨n, hn, hk⟩ : ∃ n, p.node? t.node = some n ∧ n.kind = .sub := by simpa using h
    rw [arrive_sub_eq hn hk]
    split
    · exact .inl rfl
    · rename_i hidle
      rw [spawnStarts_subs, enterSub_subs]
      split
      · exact .inl rfl
      · exact .inr ⟨rfl, by rw [← node?_id p _ n hn]; simpa using hidle⟩

theorem igReady_subs (cfg : Cfg) (p : Proc) (s : St) (n : Node) (g : IgSt) (w : List Tok) :
    (igReady cfg p s n g w).2.subs = s.subs := by
  unfold igReady
  split
  · rfl
  · simp only
    split
    · split <;> simp
    · split <;> rfl

theorem igRelease_subs (p : Proc) (s : St) (n : Node) (g : IgSt) : (igRelease p s n g).2.subs = s.subs := by
  unfold igRelease
  simp only
  split
  · simp
  · rw [foldl_proj (fun x : List Tok × St => x.2.subs)]
    · simp only
      rw [foldl_proj (fun s : St => s.subs)]
      · simp
      · intro _ _; rfl
    · intro b a
      obtain ⟨acc, s1⟩ := b
      obtain ⟨f, r⟩ := a
      simp only
      split
      · simp
      · split <;> simp

theorem settleIncl_subs (cfg : Cfg) (p : Proc) (s : St) (w : List Tok) : (settleIncl cfg p s w).2.subs = s.subs := by
  unfold settleIncl
  simp only
  rw [foldl_proj (fun x : Option (List Tok) × St => x.2.subs)]
  intro b n
  obtain ⟨r, s1⟩ := b
  cases r with
  | some x => rfl
  | none =>
    simp only
    split
    · rw [igRelease_subs, igReady_subs]
    · rw [igReady_subs]

theorem settleSubs_subs (cfg : Cfg) (p : Proc) (s : St) :
    (Bpmn.Spec.TokenGame.settleSubs cfg p s).2.subs.Sublist s.subs := by
  cases hd : s.subs.find? (fun t => !liveInScope p s t.node []) with
  | none => rw [settleSubs_idle hd]; exact .refl _
  | some t =>
    cases hr : cfg.subNeverReturns with
    | false =>
      rw [settleSubs_returns hr hd]
      simp only
      split
      · exact List.filter_sublist
      · rw [nextTurn_subs, leave, selectFlows_subs]; exact List.filter_sublist
    | true =>
      -- the deviation: `t` is taken out and parked; a running enclosing activation, if any, is taken out as well
      simp only [Bpmn.Spec.TokenGame.settleSubs, hd, hr, if_true]
      split
      · split <;>
          (rw [selectFlows_subs]; simp only [cause_subs]
           exact List.Sublist.trans List.filter_sublist List.filter_sublist)
      · simp only [cause_subs]; exact List.filter_sublist

theorem settle_subs (cfg : Cfg) (p : Proc) (s : St) : (settle cfg p s).2.subs.Sublist s.subs := by
  rw [settle_eq]
  split
  · rw [settleIncl_subs]; exact .refl _
  · exact (settleSubs_subs ..).trans (settleIncl_subs cfg p s [] ▸ .refl _)

end Bpmn.Props.C12Turns

namespace Bpmn.Props.C12
open Bpmn.Model Bpmn.Model.Engine

theorem settle_of_none (cfg : Cfg) (p : Proc) (s : St) (hig : (settleIncl cfg p s []).1 = none) :
    settle cfg p s = Bpmn.Spec.TokenGame.settleSubs cfg p (settleIncl cfg p s []).2 := by
  rw [Bpmn.Lemmas.Engine.settle_eq, hig]

end Bpmn.Props.C12
