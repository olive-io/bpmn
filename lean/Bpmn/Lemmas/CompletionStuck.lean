import Bpmn.Lemmas.CompletionSafety
/-! Three ways in which the faithful model gets stuck for ever (the negative side of C02's liveness dichotomy). Each is
an invariant of ALL continuations: once a reachable state satisfies it, every state reached from it under any schedule
and any further history of calls satisfies it too. -/
namespace Bpmn.Model.Completion

/-! ## (D3) the only monitor subscribed too late: it can no longer count `n` start traces -/

structure Starved (P : Params) (s : St) : Prop where
  prog : s.prog = []
  mons : ∃ m, s.mons = [m] ∧ m.pc = .counting ∧ m.count + starts m.buf + pendFor s 0 + (P.n - s.sent) < P.n
  lock : s.lock = some (.mon 0)
  noCease : Trace.cease ∉ s.log
  waits : ∀ x ∈ s.waits, x.helper = .wantLock ∧ x.caller ≠ .gotTrue ∧ x.sig = false

theorem starved_step {P : Params} {s s' : St} {c : Choice} (I : Inv P s) (h : Starved P s) (st : Step P s c s') :
    Starved P s' := by
  obtain ⟨hp, ⟨m, hm, hpc, hlt⟩, hl, hnc, hw⟩ := h
  cases st with
  | trigger hpr | subscribe hpr | lock hpr | lockNoMon hpr => rw [hp] at hpr; cases hpr
  | counted hk _ hcn => obtain ⟨_, rfl⟩ := eq_of_getElem?_singleton (hm ▸ hk); omega
  | @count _ _ t r hk _ _ hb =>
    obtain ⟨rfl, rfl⟩ := eq_of_getElem?_singleton (hm ▸ hk)
    refine ⟨hp, ⟨{ m with buf := r, count := m.count + isStart t }, by rw [hm]; rfl, hpc, ?_⟩, hl, hnc, hw⟩
    rw [hb, starts_cons] at hlt
    simp only [pendFor] at hlt ⊢; omega
  | unsub hk hpc' | drain hk hpc' | wgDone hk hpc' | cease hk hpc' | unlock hk hpc' =>
    obtain ⟨_, rfl⟩ := eq_of_getElem?_singleton (hm ▸ hk); rw [hpc] at hpc'; cases hpc'
  | served hpe =>
    refine ⟨hp, ⟨m, hm, hpc, ?_⟩, hl, hnc, hw⟩
    rw [pendFor_none rfl]; dsimp only; omega
  | @deliver t _ ks _ hpe hk =>
    obtain ⟨rfl, rfl⟩ := eq_of_getElem?_singleton (hm ▸ hk)
    refine ⟨hp, ⟨{ m with buf := m.buf ++ [t] }, by rw [hm]; rfl, hpc, ?_⟩, hl, hnc, hw⟩
    rw [pendFor_some hpe, List.count_cons_self, Nat.mul_succ] at hlt
    rw [pendFor_mkPending rfl, starts_append]; dsimp only; omega
  | helperLock _ _ hln => rw [hl] at hln; cases hln
  | signal hx hh | handOver hx hh => rw [(hw _ (List.mem_of_getElem? hx)).1] at hh; cases hh
  | recv hx _ hsig => rw [(hw _ (List.mem_of_getElem? hx)).2.2] at hsig; cases hsig
  | expire hx =>
    have := hw _ (List.mem_of_getElem? hx)
    exact ⟨hp, ⟨m, hm, hpc, hlt⟩, hl, hnc, forall_mem_set hw ⟨this.1, nofun, this.2.2⟩⟩
  | call => exact ⟨hp, ⟨m, hm, hpc, hlt⟩, hl, hnc, forall_mem_concat hw ⟨rfl, nofun, rfl⟩⟩
  | startTrace hg hpn =>
    refine ⟨hp, ⟨m, hm, hpc, ?_⟩, hl, by simpa using hnc, hw⟩
    -- `sent < fired ≤ n`: the start trace now sent was still owed
    have := I.cnt.c2; have := I.cnt.c3
    rw [pendFor_none hpn] at hlt
    rw [pendFor_mkPending rfl, I.mon.nodup.count, show isStart .start = 1 from rfl]
    dsimp only; split <;> omega
  | other _ hpn | strayTrace _ hpn =>
    refine ⟨hp, ⟨m, hm, hpc, ?_⟩, hl, by simpa using hnc, hw⟩
    rw [pendFor_none hpn] at hlt
    rw [pendFor_mkPending rfl]; simpa [isStart] using hlt
  | _ => exact ⟨hp, ⟨m, hm, hpc, hlt⟩, hl, hnc, hw⟩

/-! ## (D2) an unbuffered signal: the helper of a call that has given up keeps the lock for ever -/

structure HelperStuck (P : Params) (s : St) (w : Nat) : Prop where
  cap : P.sigCap = 0
  lock : s.lock = some (.helper w)
  me : ∃ x, s.waits[w]? = some x ∧ x.helper = .holding ∧ x.caller ≠ .waiting
  sig : ∀ x ∈ s.waits, x.sig = false

def trueCount (s : St) : Nat := s.waits.countP (fun x => x.caller == .gotTrue)

theorem helperStuck_step {P : Params} {s s' : St} {c : Choice} {w n : Nat} (I : Inv P s)
    (h : HelperStuck P s w ∧ trueCount s = n) (st : Step P s c s') : HelperStuck P s' w ∧ trueCount s' = n := by
  obtain ⟨⟨hcap, hl, ⟨x0, hx0, hh0, hc0⟩, hsig⟩, hn⟩ := h
  cases st with
  | lock _ hln | lockNoMon _ hln | helperLock _ _ hln => rw [hl] at hln; cases hln
  | unlock hk hpc => have := I.lock.mon _ _ hk (by rw [hpc]; rfl); rw [hl] at this; cases this
  | signal _ _ hc => omega
  | handOver hx hh _ hc =>
    have := I.lock.helper _ _ hx hh
    rw [hl] at this; cases this
    rw [hx0] at hx; cases hx; exact absurd hc hc0
  | recv hx _ hs => rw [hsig _ (List.mem_of_getElem? hx)] at hs; cases hs
  | @expire j x hx hc =>
    refine ⟨⟨hcap, hl, exists_getElem?_set hx (fun h => ⟨h.1, nofun⟩) ⟨x0, hx0, hh0, hc0⟩,
      forall_mem_set hsig (hsig x (List.mem_of_getElem? hx))⟩, ?_⟩
    have := countP_set (fun x => x.caller == .gotTrue) hx (a := { x with caller := .expired })
    rw [hc] at this; exact (Nat.add_right_cancel this).trans hn
  | call =>
    exact ⟨⟨hcap, hl, ⟨x0, getElem?_append_some hx0, hh0, hc0⟩, forall_mem_concat hsig rfl⟩,
      by simpa [trueCount, List.countP_append] using hn⟩
  | _ => exact ⟨⟨hcap, hl, ⟨x0, hx0, hh0, hc0⟩, hsig⟩, hn⟩

/-! ## (D4) a second monitor waits for the lock with an unread subscription: the broadcaster stalls on its full buffer -/

/-- monitor `j` holds the lock and has not emitted its cease trace; monitor `k` was subscribed by a later `StartWith`
which is blocked in `complete.Lock()`; the tracer is in the middle of a broadcast whose next receiver is `k`, and
`k`'s buffer is full -/
structure TracerStuck (P : Params) (s : St) (j k : Nat) : Prop where
  prog : s.prog.head? = some .lock
  pend : ∃ t ks, s.pending = some (t, k :: ks)
  full : ∃ m, s.mons[k]? = some m ∧ m.pc = .wantLock ∧ P.subBuf ≤ m.buf.length
  lock : s.lock = some (.mon j)
  holder : ∃ m, s.mons[j]? = some m ∧ (m.pc = .counting ∨ m.pc = .unsub ∨ m.pc = .wgwait ∨ m.pc = .ceasing)
  waits : ∀ x ∈ s.waits, x.helper = .wantLock ∧ x.caller ≠ .gotTrue ∧ x.sig = false

theorem tracerStuck_step {P : Params} {s s' : St} {c : Choice} {j k : Nat} {l : List Trace} (I : Inv P s)
    (h : TracerStuck P s j k ∧ s.log = l) (st : Step P s c s') : TracerStuck P s' j k ∧ s'.log = l := by
  obtain ⟨⟨hp, ⟨t0, ks0, hpe⟩, ⟨mk, hmk, hkpc, hfull⟩, hl, ⟨mj, hmj, hjpc⟩, hw⟩, hlog⟩ := h
  -- only the holder of the lock runs, and a step that keeps it among the four pcs changes nothing else
  have holder : ∀ {i : Nat} {m m' : Mon}, s.mons[i]? = some m → m.pc.holds = true →
      (m'.pc = .counting ∨ m'.pc = .unsub ∨ m'.pc = .wgwait ∨ m'.pc = .ceasing) →
      TracerStuck P { s with mons := s.mons.set i m' } j k ∧ s.log = l := by
    intro i m m' hi hh hm'
    have := I.lock.mon _ _ hi hh
    rw [hl] at this; cases this
    have hjk : j ≠ k := by
      intro e; subst e; rw [hmk] at hi; cases hi; rw [hkpc] at hh; cases hh
    exact ⟨⟨hp, ⟨t0, ks0, hpe⟩, ⟨mk, by rw [List.getElem?_set_ne hjk]; exact hmk, hkpc, hfull⟩, hl,
      ⟨m', List.getElem?_set_self (List.getElem?_eq_some_iff.mp hi).1, hm'⟩, hw⟩, hlog⟩
  cases st with
  | trigger hpr | subscribe hpr => rw [hpr] at hp; cases hp
  | lock _ hln | lockNoMon _ hln | helperLock _ _ hln => rw [hl] at hln; cases hln
  | counted hi hpc => exact holder hi (by rw [hpc]; rfl) (.inr (.inl rfl))
  | count hi hpc => exact holder hi (by rw [hpc]; rfl) (.inl hpc)
  | drain hi hpc => exact holder hi (by rw [hpc]; rfl) (.inr (.inl hpc))
  | wgDone hi hpc => exact holder hi (by rw [hpc]; rfl) (.inr (.inr (.inr rfl)))
  | unsub _ _ hpn | cease _ _ hpn | startTrace _ hpn | other _ hpn | strayTrace _ hpn => rw [hpe] at hpn; cases hpn
  | unlock hi hpc =>
    have := I.lock.mon _ _ hi (by rw [hpc]; rfl)
    rw [hl] at this; cases this
    rw [hmj] at hi; cases hi
    rcases hjpc with h | h | h | h <;> rw [hpc] at h <;> cases h
  | served hpe' => rw [hpe] at hpe'; cases hpe'
  | deliver hpe' hi hlt => rw [hpe] at hpe'; cases hpe'; rw [hmk] at hi; cases hi; omega
  | signal hx hh | handOver hx hh => rw [(hw _ (List.mem_of_getElem? hx)).1] at hh; cases hh
  | recv hx _ hsig => rw [(hw _ (List.mem_of_getElem? hx)).2.2] at hsig; cases hsig
  | expire hx =>
    have := hw _ (List.mem_of_getElem? hx)
    exact ⟨⟨hp, ⟨t0, ks0, hpe⟩, ⟨mk, hmk, hkpc, hfull⟩, hl, ⟨mj, hmj, hjpc⟩, forall_mem_set hw ⟨this.1, nofun, this.2.2⟩⟩, hlog⟩
  | call =>
    exact ⟨⟨hp, ⟨t0, ks0, hpe⟩, ⟨mk, hmk, hkpc, hfull⟩, hl, ⟨mj, hmj, hjpc⟩, forall_mem_concat hw ⟨rfl, nofun, rfl⟩⟩, hlog⟩
  | _ => exact ⟨⟨hp, ⟨t0, ks0, hpe⟩, ⟨mk, hmk, hkpc, hfull⟩, hl, ⟨mj, hmj, hjpc⟩, hw⟩, hlog⟩

/-! ## Decidability (so that a concrete reachable state is shown stuck by evaluation) -/

local instance {α : Type} {o : Option α} {p : α → Prop} [DecidablePred p] : Decidable (∃ x, o = some x ∧ p x) :=
  match o with
  | none => isFalse (fun ⟨_, e, _⟩ => nomatch e)
  | some a => decidable_of_iff (p a) ⟨fun h => ⟨a, rfl, h⟩, fun ⟨_, e, h⟩ => by cases e; exact h⟩

local instance {l : List Mon} {p : Mon → Prop} [DecidablePred p] : Decidable (∃ m, l = [m] ∧ p m) :=
  match l with
  | [m] => decidable_of_iff (p m) ⟨fun h => ⟨m, rfl, h⟩, fun ⟨_, e, h⟩ => by cases e; exact h⟩
  | [] | _ :: _ :: _ => isFalse (fun ⟨_, e, _⟩ => nomatch e)

local instance {o : Option (Trace × List Nat)} {k : Nat} : Decidable (∃ t ks, o = some (t, k :: ks)) :=
  match o with
  | some (t, k' :: ks) => decidable_of_iff (k' = k) ⟨fun h => ⟨t, ks, by rw [h]⟩, fun ⟨_, _, e⟩ => by cases e; rfl⟩
  | none | some (_, []) => isFalse (fun ⟨_, _, e⟩ => nomatch e)

instance (P : Params) (s : St) : Decidable (Starved P s) :=
  decidable_of_iff (_ ∧ _ ∧ _ ∧ _ ∧ _) ⟨fun ⟨a, b, c, d, e⟩ => ⟨a, b, c, d, e⟩, fun h => ⟨h.prog, h.mons, h.lock, h.noCease, h.waits⟩⟩

instance (P : Params) (s : St) (w : Nat) : Decidable (HelperStuck P s w) :=
  decidable_of_iff (_ ∧ _ ∧ _ ∧ _) ⟨fun ⟨a, b, c, d⟩ => ⟨a, b, c, d⟩, fun h => ⟨h.cap, h.lock, h.me, h.sig⟩⟩

instance (P : Params) (s : St) (j k : Nat) : Decidable (TracerStuck P s j k) :=
  decidable_of_iff (_ ∧ _ ∧ _ ∧ _ ∧ _ ∧ _) ⟨fun ⟨a, b, c, d, e, f⟩ => ⟨a, b, c, d, e, f⟩,
    fun h => ⟨h.prog, h.pend, h.full, h.lock, h.holder, h.waits⟩⟩

/-! ## Facts a schedule never looks at -/

theorem run_congr {P P' : Params} {sched : List Choice} (h : ∀ c ∈ sched, ∀ s, step P' s c = step P s c) (s : St) :
    run P' s sched = run P s sched := by
  induction sched generalizing s with
  | nil => rfl
  | cons c cs ih =>
    show run P' (step P' s c) cs = run P (step P s c) cs
    rw [h c (List.mem_cons_self ..), ih (fun c' hc' => h c' (List.mem_cons_of_mem _ hc'))]

def Choice.isHelper : Choice → Bool
  | .helper _ => true
  | _ => false

theorem run_sigCap (P : Params) (a : Nat) (s : St) (sched : List Choice) (h : ∀ c ∈ sched, c.isHelper = false) :
    run { P with sigCap := a } s sched = run P s sched :=
  run_congr (fun c hc s => by cases c <;> first | rfl | cases h _ hc) s

theorem run_caps (P : Params) (a b : Nat) (s : St) (sched : List Choice)
    (h : ∀ c ∈ sched, c.isHelper = false ∧ c ≠ .deliver) : run { P with sigCap := a, subBuf := b } s sched = run P s sched :=
  run_congr (fun c hc s => by cases c <;> first | rfl | exact absurd rfl (h _ hc).2 | cases (h _ hc).1) s

end Bpmn.Model.Completion
