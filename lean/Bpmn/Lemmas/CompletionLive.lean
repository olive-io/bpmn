import Bpmn.Lemmas.CompletionSafety
/-! Liveness of the completion protocol as bounded progress, under the three facts that exclude the witnesses:
the monitor subscribes before the first start event is triggered, `StartAll` creates one monitor, the signal channel
of `WaitUntilComplete` is buffered. -/
namespace Bpmn.Model.Completion

structure LiveHyp (P : Params) : Prop where
  sub : P.subBefore = true
  one : P.monitorsPerStartAll = 1
  cap : 1 ≤ P.sigCap
  buf : 1 ≤ P.subBuf
  n : 1 ≤ P.n

theorem programFrom_noMon (P : Params) (hps : P.perStart = false) (i k : Nat) (hi : 1 ≤ i) :
    programFrom P i k = List.replicate k .trigger := by
  induction k generalizing i with
  | zero => simp [programFrom]
  | succ k ih =>
    have hne : (i == 0) = false := by simp; omega
    simp [programFrom, startWithAt, startWith, hps, hne, ih (i + 1) (by omega), List.replicate_succ]

theorem program_live {P : Params} (h : LiveHyp P) : program P = .subscribe :: .lock :: List.replicate P.n .trigger := by
  unfold program
  obtain ⟨k, hk⟩ : ∃ k, P.n = k + 1 := ⟨P.n - 1, by have := h.n; omega⟩
  rw [hk]
  cases hps : P.perStart with
  | false =>
    simp [programFrom, startWithAt, startWith, h.sub, programFrom_noMon P hps 1 k (by omega), List.replicate_succ]
  | true =>
    have : P.n = 1 := by have := h.one; simpa [Params.monitorsPerStartAll, hps] using this
    have hk0 : k = 0 := by omega
    subst hk0
    simp [programFrom, startWithAt, startWith, h.sub]

/-! ## Who holds the lock exists and can move; a sent signal is there for the caller -/

structure WLive (s : St) : Prop where
  sig : ∀ x ∈ s.waits, x.helper = .done → x.caller = .waiting → x.sig = true
  lockH : ∀ w, s.lock = some (.helper w) → ∃ x, s.waits[w]? = some x ∧ x.helper = .holding
  lockM : ∀ k, s.lock = some (.mon k) → ∃ m, s.mons[k]? = some m ∧ m.pc.holds = true

theorem wLive_step {P : Params} {s s' : St} {c : Choice} (hK : LockInv s) (h : WLive s) (st : Step P s c s') :
    WLive s' := by
  obtain ⟨h1, h2, h3⟩ := h
  cases st with
  | subscribe =>
    exact ⟨h1, h2, fun k hk => (h3 k hk).imp fun m hm => ⟨getElem?_append_some hm.1, hm.2⟩⟩
  | lock _ _ hm =>
    refine ⟨h1, nofun, fun k hk => ?_⟩
    cases hk
    exact ⟨_, List.getElem?_set_self (List.getElem?_eq_some_iff.mp hm).1, rfl⟩
  | lockNoMon hp _ hm => rw [(lockInv_lastMon hK hp).choose_spec] at hm; cases hm
  | counted hm | unsub hm | wgDone hm | cease hm =>
    exact ⟨h1, h2, fun k hk => exists_getElem?_set hm (fun _ => rfl) (h3 k hk)⟩
  | count hm | drain hm | deliver _ hm =>
    exact ⟨h1, h2, fun k hk => exists_getElem?_set hm id (h3 k hk)⟩
  | unlock => exact ⟨h1, nofun, nofun⟩
  | helperLock hx =>
    refine ⟨forall_mem_set h1 nofun, fun w hw => ?_, nofun⟩
    cases hw
    exact ⟨_, List.getElem?_set_self (List.getElem?_eq_some_iff.mp hx).1, rfl⟩
  | signal => exact ⟨forall_mem_set h1 (fun _ _ => rfl), nofun, nofun⟩
  | handOver => exact ⟨forall_mem_set h1 (fun _ hc => nomatch hc), nofun, nofun⟩
  | recv hx | expire hx =>
    exact ⟨forall_mem_set h1 (fun _ hc => nomatch hc), fun w hw => exists_getElem?_set hx id (h2 w hw), h3⟩
  | call =>
    exact ⟨forall_mem_concat h1 nofun, fun w hw => (h2 w hw).imp fun x hx => ⟨getElem?_append_some hx.1, hx.2⟩, h3⟩
  | _ => exact ⟨h1, h2, h3⟩

/-! ## The single monitor sees every start trace -/

def MPc.subscribed : MPc → Bool
  | .wantLock | .counting | .unsub => true
  | _ => false

structure LCore (P : Params) (s : St) (m : Mon) : Prop where
  progW : m.pc = .wantLock → s.prog = .lock :: List.replicate P.n .trigger
  progR : m.pc ≠ .wantLock → ∃ j, s.prog = List.replicate j .trigger
  /-- nothing was missed: every start trace sent so far is counted, buffered, or on its way -/
  seen : (m.pc = .wantLock ∨ m.pc = .counting) → s.sent ≤ m.count + starts m.buf + pendFor s 0
  subs : s.subs = if m.pc.subscribed then [0] else []
  pend : ∀ t ks, s.pending = some (t, ks) → ks = [0] ∧ m.pc.subscribed = true

def LInv (P : Params) (s : St) : Prop :=
  (s.prog = program P ∧ s.mons = [] ∧ s.subs = [] ∧ s.pending = none) ∨ ∃ m, s.mons = [m] ∧ LCore P s m

theorem replicate_trigger_cons {j : Nat} {r : List SI} {x : SI} (h : List.replicate j SI.trigger = x :: r) :
    x = .trigger ∧ r = List.replicate (j - 1) .trigger := by
  cases j with
  | zero => cases h
  | succ j => cases h; exact ⟨rfl, rfl⟩

theorem lInv_step {P : Params} {s s' : St} {c : Choice} (hL : LiveHyp P) (hC : Cnt P s) (h : LInv P s)
    (st : Step P s c s') : LInv P s' := by
  have hprog := program_live hL
  rcases h with ⟨a, b, cc, d⟩ | ⟨m, hm, c1, c2, c3, c4, c5⟩
  · -- before the monitor exists nothing has been triggered, so nothing sent
    have hs0 : s.sent = 0 := by
      have := hC.c3; rw [a, hprog] at this; simp [trigCount] at this
      have := hC.c1; have := hC.c2; omega
    rw [hprog] at a
    cases st with
    | trigger hp | lock hp | lockNoMon hp => rw [a] at hp; cases hp
    | subscribe hp =>
      rw [a] at hp; cases hp
      exact .inr ⟨{}, by rw [b]; rfl, fun _ => rfl, fun h => absurd rfl h, fun _ => Nat.le_trans (Nat.le_of_eq hs0) (Nat.zero_le _),
        by rw [cc, b]; rfl, fun t ks hp => by rw [d] at hp; cases hp⟩
    | counted hm | count hm | unsub hm | drain hm | wgDone hm | cease hm | unlock hm => rw [b] at hm; cases hm
    | served hp | deliver hp => rw [d] at hp; cases hp
    | startTrace | other | strayTrace => exact .inl ⟨a.trans hprog.symm, b, cc, by rw [cc]; rfl⟩
    | _ => exact .inl ⟨a.trans hprog.symm, b, cc, d⟩
  · have hhead : m.pc = .wantLock ↔ s.prog.head? = some .lock := by
      constructor
      · intro h; rw [c1 h]; rfl
      · intro h; apply Classical.byContradiction; intro hw
        obtain ⟨j, hj⟩ := c2 hw
        cases j <;> rw [hj] at h <;> cases h
    -- what the tracer accepts goes to the monitor as long as it is subscribed
    have pendNew : ∀ t t' ks, mkPending t s.subs = some (t', ks) → ks = [0] ∧ m.pc.subscribed = true := by
      intro t t' ks hp
      cases hs : m.pc.subscribed <;> rw [c4, hs] at hp <;> cases hp
      exact ⟨rfl, rfl⟩
    cases st with
    | trigger hp =>
      have hnw : m.pc ≠ .wantLock := fun h => by rw [c1 h] at hp; cases hp
      obtain ⟨j, hj⟩ := c2 hnw
      exact .inr ⟨m, hm, fun h => absurd h hnw, fun _ => ⟨j - 1, (replicate_trigger_cons (hj.symm.trans hp)).2⟩, c3, c4, c5⟩
    | subscribe hp =>
      have : m.pc ≠ .wantLock := fun h => by rw [c1 h] at hp; cases hp
      obtain ⟨j, hj⟩ := c2 this
      cases (replicate_trigger_cons (hj.symm.trans hp)).1
    | lock hp _ hml =>
      rw [hm] at hml; cases hml
      have hw : m.pc = .wantLock := hhead.mpr (by rw [hp]; rfl)
      have hr := c1 hw; rw [hp] at hr; cases hr
      exact .inr ⟨{ m with pc := .counting }, by rw [hm]; rfl, nofun, fun _ => ⟨P.n, rfl⟩, fun _ => c3 (.inl hw),
        by rw [c4, hw]; rfl, fun t ks hp => ⟨(c5 t ks hp).1, rfl⟩⟩
    | lockNoMon _ _ hml => rw [hm] at hml; cases hml
    | counted hk hpc | wgDone hk hpc | unlock hk hpc =>
      -- the pc moves on; the monitor stays subscribed or was not subscribed
      obtain ⟨rfl, rfl⟩ := eq_of_getElem?_singleton (hm ▸ hk)
      have hnw : m.pc ≠ .wantLock := fun h => by rw [hpc] at h; cases h
      exact .inr ⟨_, by rw [hm]; rfl, (by intro h; cases h), fun _ => c2 hnw, (by intro h; cases h <;> contradiction),
        by rw [c4, hpc]; rfl, fun t ks hp => ⟨(c5 t ks hp).1, by have := (c5 t ks hp).2; rw [hpc] at this; first | rfl | cases this⟩⟩
    | @count _ _ t r hk hpc _ hb =>
      obtain ⟨rfl, rfl⟩ := eq_of_getElem?_singleton (hm ▸ hk)
      have hnw : m.pc ≠ .wantLock := fun h => by rw [hpc] at h; cases h
      refine .inr ⟨{ m with buf := r, count := m.count + isStart t }, by rw [hm]; rfl, fun h => absurd h hnw, fun _ => c2 hnw,
        fun _ => ?_, c4, c5⟩
      have := c3 (.inr hpc)
      rw [hb, starts_cons] at this
      simp only [pendFor] at this ⊢
      omega
    | unsub hk hpc hpn =>
      obtain ⟨rfl, rfl⟩ := eq_of_getElem?_singleton (hm ▸ hk)
      have hnw : m.pc ≠ .wantLock := fun h => by rw [hpc] at h; cases h
      have hsub : s.subs = [0] := by rw [c4, hpc]; rfl
      exact .inr ⟨{ m with buf := [], pc := .wgwait }, by rw [hm]; rfl, nofun, fun _ => c2 hnw, fun h => by cases h <;> contradiction,
        by simp [hsub, swapRemove, MPc.subscribed], fun t ks hp => by rw [hpn] at hp; cases hp⟩
    | @drain _ _ t r hk hpc =>
      obtain ⟨rfl, rfl⟩ := eq_of_getElem?_singleton (hm ▸ hk)
      have hnw : m.pc ≠ .wantLock := fun h => by rw [hpc] at h; cases h
      exact .inr ⟨{ m with buf := r }, by rw [hm]; rfl, fun h => absurd h hnw, fun _ => c2 hnw,
        fun h => by rw [hpc] at h; cases h <;> contradiction, c4, c5⟩
    | cease hk hpc =>
      obtain ⟨rfl, rfl⟩ := eq_of_getElem?_singleton (hm ▸ hk)
      have hnw : m.pc ≠ .wantLock := fun h => by rw [hpc] at h; cases h
      have hsub : s.subs = [] := by rw [c4, hpc]; rfl
      exact .inr ⟨{ m with pc := .unlocking }, by rw [hm]; rfl, nofun, fun _ => c2 hnw, fun h => by cases h <;> contradiction,
        by rw [hsub]; rfl, fun t ks hp => by rw [hsub] at hp; cases hp⟩
    | served hp => cases (c5 _ _ hp).1
    | @deliver t k ks _ hp hk =>
      cases (c5 _ _ hp).1
      obtain ⟨_, rfl⟩ := eq_of_getElem?_singleton (hm ▸ hk)
      refine .inr ⟨{ m with buf := m.buf ++ [t] }, by rw [hm]; rfl, c1, c2, fun h => ?_, c4, fun t' ks' hp' => by cases hp'⟩
      have := c3 h
      rw [pendFor_some hp, List.count_cons_self, List.count_nil, Nat.mul_one] at this
      rw [pendFor_none rfl, starts_append]; dsimp only; omega
    | startTrace _ hpn =>
      refine .inr ⟨m, hm, c1, c2, fun h => ?_, c4, pendNew _⟩
      have hsub : s.subs = [0] := by rcases h with h | h <;> rw [c4, h] <;> rfl
      have := c3 h
      rw [pendFor_none hpn] at this
      rw [pendFor_mkPending rfl, hsub, List.count_cons_self, List.count_nil, show isStart .start = 1 from rfl]
      dsimp only; omega
    | other _ hpn | strayTrace _ hpn =>
      refine .inr ⟨m, hm, c1, c2, fun h => ?_, c4, pendNew _⟩
      have := c3 h
      rw [pendFor_none hpn] at this
      rw [pendFor_mkPending rfl]; simpa [isStart] using this
    | _ => exact .inr ⟨m, hm, c1, c2, c3, c4, c5⟩

def pendMu (s : St) : Nat :=
  match s.pending with
  | some (_, ks) => 2 * ks.length
  | none => 0

def monMu (m : Mon) : Nat :=
  match m.pc with
  | .wantLock => 6 + m.buf.length
  | .counting => 5 + m.buf.length
  | .unsub => 4 + m.buf.length
  | .wgwait => 3
  | .ceasing => 2
  | .unlocking => 1
  | .done => 0

def helperMu : HPc → Nat
  | .wantLock => 2
  | .holding => 1
  | .done => 0

def waitMu (x : Wait) : Nat := helperMu x.helper + (if x.caller = .waiting then 1 else 0)

/-- an upper bound on the number of moves the engine's goroutines still have to make -/
def mu (s : St) : Nat := pendMu s + (s.mons.map monMu).sum + (s.waits.map waitMu).sum + 4 * s.strays

theorem pendMu_none {s : St} (h : s.pending = none) : pendMu s = 0 := by simp [pendMu, h]

theorem pendMu_some {s : St} {t : Trace} {ks : List Nat} (h : s.pending = some (t, ks)) : pendMu s = 2 * ks.length := by
  simp [pendMu, h]

theorem pendMu_mkPending {s : St} {t : Trace} {ks : List Nat} (h : s.pending = mkPending t ks) :
    pendMu s = 2 * ks.length := by
  cases ks with
  | nil => exact pendMu_none h
  | cons a as => exact pendMu_some h

structure LiveCtx (P : Params) (s : St) : Prop where
  hyp : LiveHyp P
  inv : Inv P s
  linv : LInv P s
  wl : WLive s

theorem liveCtx_step {P : Params} {s : St} (h : LiveCtx P s) (c : Choice) : LiveCtx P (step P s c) :=
  step_preserves (fun st => ⟨h.hyp, inv_Step h.inv st, lInv_step h.hyp h.inv.cnt h.linv st, wLive_step h.inv.lock h.wl st⟩) h c

theorem liveCtx_run {P : Params} {s : St} (h : LiveCtx P s) (sched : List Choice) : LiveCtx P (run P s sched) :=
  run_preserves (I := LiveCtx P) (fun _ c h => liveCtx_step h c) h sched

theorem liveCtx_of_reachable {P : Params} (hL : LiveHyp P) {s : St} (hr : Reachable P s) : LiveCtx P s := by
  obtain ⟨sched, rfl⟩ := hr
  exact liveCtx_run ⟨hL, inv_init P hL.n, .inl ⟨rfl, rfl, rfl, rfl⟩, by constructor <;> simp [init]⟩ sched

theorem quiet_run {P : Params} {s : St} (h : LiveCtx P s) (hq : quiet P s) (sched : List Choice) :
    quiet P (run P s sched) :=
  (run_preserves (I := fun s => LiveCtx P s ∧ quiet P s)
    (fun _ c h => ⟨liveCtx_step h.1 c, step_preserves (quiet_step h.1.inv.cnt h.2) h.2 c⟩) ⟨h, hq⟩ sched).2

theorem liveCtx_shape {P : Params} {s : St} (h : LiveCtx P s) (hq : quiet P s) :
    s.prog = [] ∧ ∃ m, s.mons = [m] ∧ m.pc ≠ .wantLock ∧ LCore P s m := by
  obtain ⟨hL, I, hl, _⟩ := h
  have htc : trigCount s.prog = 0 := by
    have := I.cnt.c3; have := I.cnt.c2; have := hq.1; omega
  have hn := hL.n
  rcases hl with ⟨a, _, _, _⟩ | ⟨m, hm, hc⟩
  · rw [a, program_live hL] at htc; simp [trigCount] at htc; omega
  · have hnw : m.pc ≠ .wantLock := by
      intro hw; rw [hc.progW hw] at htc; simp [trigCount] at htc; omega
    obtain ⟨j, hj⟩ := hc.progR hnw
    rw [hj] at htc; simp [trigCount] at htc
    exact ⟨by rw [hj, htc]; rfl, m, hm, hnw, hc⟩

theorem monMu_push (m : Mon) (t : Trace) : monMu { m with buf := m.buf ++ [t] } ≤ monMu m + 1 := by
  simp only [monMu, List.length_append, List.length_cons, List.length_nil]; split <;> omega

/-- `d = 1`: the measure went down -/
theorem mu_of_mon {s s' : St} {k : Nat} {m m' : Mon} {d : Nat} (hk : s.mons[k]? = some m)
    (e1 : s'.mons = s.mons.set k m') (e2 : s'.waits = s.waits) (e3 : s'.strays = s.strays)
    (h : pendMu s' + monMu m' + d ≤ pendMu s + monMu m) : mu s' + d ≤ mu s := by
  have := sum_map_set monMu hk (a := m')
  simp only [mu, e1, e2, e3]; omega

theorem mu_of_wait {s s' : St} {w : Nat} {x x' : Wait} {d : Nat} (hx : s.waits[w]? = some x)
    (e1 : s'.waits = s.waits.set w x') (e2 : s'.mons = s.mons) (e3 : s'.pending = s.pending) (e4 : s'.strays = s.strays)
    (h : waitMu x' + d ≤ waitMu x) : mu s' + d ≤ mu s := by
  have := sum_map_set waitMu hx (a := x')
  simp only [mu, pendMu, e1, e2, e3, e4]; omega

/-- in a quiet state the token stream is over; a new call adds 3, an expiry nothing -/
theorem mu_step {P : Params} {s s' : St} {c : Choice} (h : LiveCtx P s) (hq : quiet P s) (st : Step P s c s') :
    (c.internal = true ∧ mu s' + 1 ≤ mu s) ∨ (c = .call ∧ mu s' = mu s + 3) ∨ (∃ w, c = .expire w ∧ mu s' + 0 ≤ mu s) := by
  obtain ⟨hp, m, hm, hnw, _, _, _, c4, c5⟩ := liveCtx_shape h hq
  cases st with
  | trigger hpr | subscribe hpr | lock hpr | lockNoMon hpr => rw [hp] at hpr; cases hpr
  | fire hg | startTrace hg | other hg | birth hg | spawnStray _ hg | death hg =>
    obtain ⟨q1, q2, q3⟩ := hq
    have := h.inv.cnt.c2; have := h.inv.cnt.c3
    omega
  | counted hk hpc | unsub hk hpc | wgDone hk hpc | unlock hk hpc =>
    refine .inl ⟨rfl, mu_of_mon hk rfl rfl rfl ?_⟩
    simp only [monMu, pendMu, hpc]; omega
  | count hk hpc _ hb | drain hk hpc _ hb =>
    refine .inl ⟨rfl, mu_of_mon hk rfl rfl rfl ?_⟩
    simp only [monMu, pendMu, hpc, hb, List.length_cons]; omega
  | cease hk hpc hpn =>
    obtain ⟨_, rfl⟩ := eq_of_getElem?_singleton (hm ▸ hk)
    have hsub : s.subs = [] := by rw [c4, hpc]; rfl
    refine .inl ⟨rfl, mu_of_mon hk rfl rfl rfl ?_⟩
    rw [pendMu_mkPending rfl, hsub]; simp only [monMu, hpc, List.length_nil]; omega
  | served hpe => cases (c5 _ _ hpe).1
  | @deliver t _ _ m' hpe hk =>
    -- the receiver's buffer grows by one, two units of the broadcast are paid
    refine .inl ⟨rfl, mu_of_mon hk rfl rfl rfl ?_⟩
    have := monMu_push m' t
    rw [pendMu_mkPending rfl, pendMu_some hpe, List.length_cons]; omega
  | helperLock hx hh | signal hx hh =>
    refine .inl ⟨rfl, mu_of_wait hx rfl rfl rfl rfl ?_⟩
    simp only [waitMu, hh, helperMu]; omega
  | handOver _ _ hcap => exact absurd h.hyp.cap hcap
  | recv hx hc =>
    refine .inl ⟨rfl, mu_of_wait hx rfl rfl rfl rfl ?_⟩
    simp only [waitMu, hc, if_true, reduceCtorEq, if_false]; omega
  | @expire w _ hx hc =>
    refine .inr (.inr ⟨w, rfl, mu_of_wait hx rfl rfl rfl rfl ?_⟩)
    simp only [waitMu, hc, if_true, reduceCtorEq, if_false]; omega
  | call => exact .inr (.inl ⟨rfl, by simp [mu, pendMu, waitMu, helperMu]; omega⟩)
  | strayTrace hg hpn =>
    have : s.subs.length ≤ 1 := by rw [c4]; split <;> simp
    exact .inl ⟨rfl, by simp only [mu]; rw [pendMu_mkPending rfl, pendMu_none hpn]; omega⟩

theorem live_enabled {P : Params} {s : St} (h : LiveCtx P s) (hq : quiet P s) (hnf : ¬ Finished s) :
    ∃ c s', c.internal = true ∧ Step P s c s' := by
  obtain ⟨hp, m, hm, hnw, _, _, c3, c4, c5⟩ := liveCtx_shape h hq
  have hm0 : s.mons[0]? = some m := by rw [hm]; rfl
  -- the tracer can hand the pending trace to the monitor whenever its buffer is empty
  have deliver : ∀ p, s.pending = some p → m.buf = [] → ∃ c s', c.internal = true ∧ Step P s c s' := by
    intro ⟨t, ks⟩ hpe hb
    obtain ⟨rfl, _⟩ := c5 t ks hpe
    exact ⟨.deliver, _, rfl, .deliver hpe hm0 (by rw [hb]; exact h.hyp.buf)⟩
  cases hpc : m.pc with
  | wantLock => exact absurd hpc hnw
  | counting =>
    by_cases hcn : m.count = P.n
    · exact ⟨.mon 0, _, rfl, .counted hm0 hpc hcn⟩
    · cases hb : m.buf with
      | cons t r => exact ⟨.mon 0, _, rfl, .count hm0 hpc hcn hb⟩
      | nil =>
        -- a start trace is still missing, and it is neither counted nor buffered: it is on its way
        have h1 := c3 (.inr hpc)
        have h2 := h.inv.mon.cnt 0 m hm0
        cases hpe : s.pending with
        | none => rw [pendFor_none hpe, hb] at h1 h2; have := hq.2.1; simp [starts] at h1 h2; omega
        | some p => exact deliver p hpe hb
  | unsub =>
    cases hpe : s.pending with
    | none => exact ⟨.mon 0, _, rfl, .unsub hm0 hpc hpe⟩
    | some p =>
      cases hb : m.buf with
      | cons t r => exact ⟨.mon 0, _, rfl, .drain hm0 hpc (by rw [hpe]; nofun) hb⟩
      | nil => exact deliver p hpe hb
  | wgwait => exact ⟨.mon 0, _, rfl, .wgDone hm0 hpc hq.2.2⟩
  | ceasing =>
    refine ⟨.mon 0, _, rfl, .cease hm0 hpc ?_⟩
    cases hpe : s.pending with
    | none => rfl
    | some p => have := (c5 p.1 p.2 hpe).2; rw [hpc] at this; cases this
  | unlocking => exact ⟨.mon 0, _, rfl, .unlock hm0 hpc⟩
  | done =>
    cases hl : s.lock with
    | some o =>
      cases o with
      | mon k =>
        obtain ⟨m', hm', hh⟩ := h.wl.lockM k hl
        obtain ⟨_, rfl⟩ := eq_of_getElem?_singleton (hm ▸ hm')
        rw [hpc] at hh; cases hh
      | helper w =>
        obtain ⟨x, hx, hh⟩ := h.wl.lockH w hl
        exact ⟨.helper w, _, rfl, .signal hx hh h.hyp.cap⟩
    | none =>
      have : ∃ x ∈ s.waits, ¬ (x.helper = .done ∧ x.caller ≠ .waiting) := by
        apply Classical.byContradiction; intro hne
        have hce : 0 < ceases s := by
          rw [h.inv.log.cnt]; exact List.countP_pos_iff.mpr ⟨m, List.mem_of_getElem? hm0, by rw [hpc]; rfl⟩
        apply hnf; refine ⟨List.count_pos_iff.mp hce, hl, fun x hx => ?_⟩
        apply Classical.byContradiction; intro hb; exact hne ⟨x, hx, hb⟩
      obtain ⟨x, hx, hbad⟩ := this
      obtain ⟨w, hw⟩ := List.getElem?_of_mem hx
      cases hh : x.helper with
      | wantLock => exact ⟨.helper w, _, rfl, .helperLock hw hh hl⟩
      | holding => have := h.inv.lock.helper w x hw hh; rw [hl] at this; cases this
      | done =>
        have hcw : x.caller = .waiting := Classical.byContradiction fun hcw => hbad ⟨hh, hcw⟩
        exact ⟨.recv w, _, rfl, .recv hw hcw (h.wl.sig x hx hh hcw)⟩

theorem live_progress {P : Params} {s : St} (h : LiveCtx P s) (hq : quiet P s) (hnf : ¬ Finished s) :
    ∃ c, c.internal = true ∧ mu (step P s c) < mu s := by
  obtain ⟨c, s', hc, st⟩ := live_enabled h hq hnf
  refine ⟨c, hc, ?_⟩
  rw [step_of_Step st]
  rcases mu_step h hq st with ⟨_, hlt⟩ | ⟨rfl, _⟩ | ⟨w, rfl, _⟩
  · exact hlt
  · cases hc
  · cases hc

theorem finished_of_mu_zero {P : Params} {s : St} (h : LiveCtx P s) (hq : quiet P s) (hz : mu s = 0) : Finished s :=
  Classical.byContradiction fun hnf => by
    obtain ⟨c, hc, hlt⟩ := live_progress h hq hnf
    omega

/-- number of choices of the engine's goroutines in a schedule that actually moved -/
def effective (P : Params) : St → List Choice → Nat
  | _, [] => 0
  | s, c :: cs => (if c.internal = true ∧ step P s c ≠ s then 1 else 0) + effective P (step P s c) cs

def calls (sched : List Choice) : Nat := sched.count .call

theorem mu_choice {P : Params} {s : St} (h : LiveCtx P s) (hq : quiet P s) (c : Choice) :
    mu (step P s c) + (if c.internal = true ∧ step P s c ≠ s then 1 else 0) ≤
      mu s + 3 * (if c == .call then 1 else 0) := by
  rcases step_spec P s c with e | st
  · rw [e]; simp
  · rcases mu_step h hq st with ⟨_, hlt⟩ | ⟨rfl, he⟩ | ⟨w, rfl, hle⟩
    · split <;> omega
    · rw [he]; simp [Choice.internal]
    · simp [Choice.internal]; exact hle

theorem live_bound {P : Params} {s : St} (h : LiveCtx P s) (hq : quiet P s) (sched : List Choice) :
    mu (run P s sched) + effective P s sched ≤ mu s + 3 * calls sched := by
  induction sched generalizing s with
  | nil => exact Nat.le_refl _
  | cons c cs ih =>
    have ih' := ih (liveCtx_step h c) (quiet_run h hq [c])
    have := mu_choice h hq c
    simp only [effective, calls, List.count_cons] at ih' ⊢
    show mu (run P (step P s c) cs) + _ ≤ _
    omega

theorem live_can_finish {P : Params} {s : St} (h : LiveCtx P s) (hq : quiet P s) : ∃ sched, Finished (run P s sched) := by
  generalize hn : mu s = n
  induction n using Nat.strongRecOn generalizing s with
  | _ n ih =>
    by_cases hf : Finished s
    · exact ⟨[], hf⟩
    · obtain ⟨c, _, hlt⟩ := live_progress h hq hf
      obtain ⟨sched, hs⟩ := ih _ (hn ▸ hlt) (liveCtx_step h c) (quiet_run h hq [c]) rfl
      exact ⟨c :: sched, hs⟩

theorem starter_advance {P : Params} {s : St} (h : LiveCtx P s) {x : SI} {r : List SI} (hp : s.prog = x :: r) :
    ∃ pre, (run P s pre).prog = r := by
  rcases h.linv with ⟨a, _, _, d⟩ | ⟨m, hm, hc⟩
  · -- `subscribe` with an idle tracer
    rw [a, program_live h.hyp] at hp; cases hp
    exact ⟨[.starter], by show (step P s .starter).prog = _; rw [step_of_Step (.subscribe (a.trans (program_live h.hyp)) d)]⟩
  · have hml : s.mons[s.mons.length - 1]? = some m := by rw [hm]; rfl
    by_cases hw : m.pc = .wantLock
    · have hpl := hc.progW hw
      rw [hpl] at hp; cases hp
      cases hl : s.lock with
      | none => exact ⟨[.starter], by show (step P s .starter).prog = _; rw [step_of_Step (.lock hpl hl hml)]⟩
      | some o =>
        cases o with
        | mon k =>
          obtain ⟨m', hm', hh⟩ := h.wl.lockM k hl
          obtain ⟨_, rfl⟩ := eq_of_getElem?_singleton (hm ▸ hm')
          rw [hw] at hh; cases hh
        | helper w =>
          -- the helper that holds the lock leaves its value in the buffered channel and releases it
          obtain ⟨y, hy, hh⟩ := h.wl.lockH w hl
          refine ⟨[.helper w, .starter], ?_⟩
          show (step P (step P s (.helper w)) .starter).prog = _
          rw [step_of_Step (.signal hy hh h.hyp.cap), step_of_Step (.lock (P := P) (s := { s with lock := none, waits := _ }) hpl rfl hml)]
    · obtain ⟨j, hj⟩ := hc.progR hw
      cases (replicate_trigger_cons (hj.symm.trans hp)).1
      exact ⟨[.starter], by show (step P s .starter).prog = _; rw [step_of_Step (.trigger hp)]⟩

theorem live_can_return {P : Params} {s : St} (h : LiveCtx P s) : ∃ sched, (run P s sched).returned = true := by
  generalize hn : s.prog.length = n
  induction n generalizing s with
  | zero => exact ⟨[], by simp [run, St.returned, List.length_eq_zero_iff.mp hn]⟩
  | succ n ih =>
    obtain ⟨x, r, hp⟩ : ∃ x r, s.prog = x :: r := by cases hp : s.prog with
      | nil => rw [hp] at hn; cases hn
      | cons x r => exact ⟨x, r, rfl⟩
    obtain ⟨pre, hpre⟩ := starter_advance h hp
    obtain ⟨sched, hs⟩ := ih (liveCtx_run h pre) (by rw [hpre]; rw [hp] at hn; exact Nat.succ.inj hn)
    exact ⟨pre ++ sched, by rw [run_append]; exact hs⟩

end Bpmn.Model.Completion
