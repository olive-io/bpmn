import Bpmn.Lemmas.Builder
/-!
The layout half of C19. Rows: `firstFree` finds a row no node of the level has, so two nodes of one level never
share a row (`computeRows_distinct`). Geometry: nodes in different cells of a grid whose gaps are at least the
node sizes do not overlap (`position_disjoint`); processes are stacked below each other (`layoutAll_shapes`).
-/
namespace Bpmn.Lemmas.BuilderLayout
open Bpmn.Model.Builder Bpmn.Lemmas.Builder

/-- the measure of `firstFree`: the occupied rows from `r` on -/
theorem countP_succ_lt {occ : List Nat} {r : Nat} (h : r ∈ occ) :
    occ.countP (fun x => decide (r + 1 ≤ x)) < occ.countP (fun x => decide (r ≤ x)) := by
  -- move `r` to the front: it counts on the right only
  rw [(List.perm_cons_erase h).countP_eq, (List.perm_cons_erase h).countP_eq,
    List.countP_cons_of_neg (by simp), List.countP_cons_of_pos (by simp)]
  exact Nat.lt_succ_of_le (List.countP_mono_left fun x _ hx =>
    decide_eq_true (Nat.le_of_succ_le (of_decide_eq_true hx)))

theorem firstFree_not_mem : ∀ (f r : Nat) (occ : List Nat),
    occ.countP (fun x => decide (r ≤ x)) < f → firstFree f r occ ∉ occ := by
  intro f
  induction f with
  | zero => exact fun _ _ h => nomatch h
  | succ f ih =>
    intro r occ h
    rw [firstFree]
    split
    · next hc =>
      exact ih (r + 1) occ
        (Nat.lt_of_lt_of_le (countP_succ_lt (List.contains_iff_mem.mp hc)) (Nat.le_of_lt_succ h))
    · next hc => exact fun hm => hc (List.contains_iff_mem.mpr hm)

theorem firstFree_fresh (r : Nat) (occ : List Nat) : firstFree (occ.length + 1) r occ ∉ occ :=
  firstFree_not_mem _ r occ (Nat.lt_succ_of_le List.countP_le_length)

theorem rowOf_upd (m : Map Nat) (i j : Id) (v : Nat) :
    rowOf (upd m i v) j = if j = i then some v else rowOf m j := by
  rw [rowOf, upd, List.lookup_cons]
  by_cases h : j = i
  · rw [if_pos h, beq_iff_eq.mpr h]
  · rw [if_neg h, beq_eq_false_iff_ne.mpr h]; rfl

theorem placeLevel_spec (edges : List LEdge) : ∀ (l : List LNode) (rows : Map Nat) (occ : List Nat),
    (l.map (·.id)).Nodup →
    (∀ i, i ∉ l.map (·.id) → rowOf (placeLevel edges l rows occ) i = rowOf rows i) ∧
    (∀ a ∈ l, ∃ r, rowOf (placeLevel edges l rows occ) a.id = some r ∧ r ∉ occ) ∧
    (∀ a ∈ l, ∀ b ∈ l, a.id ≠ b.id →
      rowOf (placeLevel edges l rows occ) a.id ≠ rowOf (placeLevel edges l rows occ) b.id) := by
  intro l
  induction l with
  | nil => intro rows occ _; exact ⟨fun _ _ => rfl, fun _ h => (nomatch h), fun _ h => (nomatch h)⟩
  | cons nd rest ih =>
    intro rows occ hnd
    rw [List.map_cons, List.nodup_cons] at hnd
    have hr := firstFree_fresh (dRound (desired edges rows nd.id)) occ
    rw [placeLevel]
    generalize firstFree (occ.length + 1) (dRound (desired edges rows nd.id)) occ = r at hr ⊢
    obtain ⟨h1, h2, h3⟩ := ih (upd rows nd.id r) (r :: occ) hnd.2
    have hhead : rowOf (placeLevel edges rest (upd rows nd.id r) (r :: occ)) nd.id = some r := by
      rw [h1 nd.id hnd.1, rowOf_upd, if_pos rfl]
    -- a row given to a later node of the level is not `r`, which is occupied by then
    have hne : ∀ b ∈ rest, rowOf (placeLevel edges rest (upd rows nd.id r) (r :: occ)) b.id ≠ some r := by
      intro b hb h
      obtain ⟨r', hr', hr''⟩ := h2 b hb
      exact hr'' (Option.some.inj (hr'.symm.trans h) ▸ List.mem_cons_self)
    refine ⟨?_, ?_, ?_⟩
    · intro i hi
      rw [List.map_cons, List.mem_cons, not_or] at hi
      rw [h1 i hi.2, rowOf_upd, if_neg hi.1]
    · intro a ha
      rcases List.mem_cons.mp ha with rfl | ha'
      · exact ⟨r, hhead, hr⟩
      · obtain ⟨r', hr', hr''⟩ := h2 a ha'
        exact ⟨r', hr', fun h => hr'' (List.mem_cons_of_mem _ h)⟩
    · intro a ha b hb hab
      rcases List.mem_cons.mp ha with rfl | ha' <;> rcases List.mem_cons.mp hb with rfl | hb'
      · exact absurd rfl hab
      · rw [hhead]; exact (hne b hb').symm
      · rw [hhead]; exact hne a ha'
      · exact h3 a ha' b hb' hab

theorem insertSorted_perm (lt : LNode → LNode → Bool) (x : LNode) (l : List LNode) :
    (insertSorted lt x l).Perm (x :: l) := by
  induction l with
  | nil => exact .refl _
  | cons y ys ih =>
    unfold insertSorted
    split
    · exact .refl _
    · exact (ih.cons y).trans (.swap x y ys)

theorem sortNodes_perm (lt : LNode → LNode → Bool) (l : List LNode) : (sortNodes lt l).Perm l := by
  induction l with
  | nil => exact .refl _
  | cons x xs ih => exact (insertSorted_perm lt x _).trans (ih.cons x)

def RowsOk (nodes : List LNode) (lv : Map Nat) (L : Nat) (rows : Map Nat) : Prop :=
  (∀ a ∈ nodes, lvOf lv a.id < L → ∃ r, rowOf rows a.id = some r) ∧
  (∀ a ∈ nodes, ∀ b ∈ nodes, a.id ≠ b.id → lvOf lv a.id = lvOf lv b.id → lvOf lv a.id < L →
    rowOf rows a.id ≠ rowOf rows b.id)

theorem placeLevel_rowsOk {nodes : List LNode} {lv : Map Nat} (edges : List LEdge) (hnd : (nodes.map (·.id)).Nodup)
    {level : Nat} {rows : Map Nat} (h : RowsOk nodes lv level rows) {sorted : List LNode}
    (hperm : sorted.Perm (nodes.filter (fun n => lvOf lv n.id = level))) :
    RowsOk nodes lv (level + 1) (placeLevel edges sorted rows []) := by
  have hmem : ∀ a, a ∈ sorted ↔ a ∈ nodes ∧ lvOf lv a.id = level := fun a => by
    rw [hperm.mem_iff, List.mem_filter, decide_eq_true_eq]
  obtain ⟨h1, h2, h3⟩ := placeLevel_spec edges sorted rows []
    ((hperm.map _).nodup_iff.mpr (hnd.sublist (List.filter_sublist.map _)))
  have hother : ∀ a : LNode, lvOf lv a.id ≠ level → rowOf (placeLevel edges sorted rows []) a.id = rowOf rows a.id :=
    fun a hne => h1 _ fun hm => by
      obtain ⟨c, hc, hid⟩ := List.mem_map.mp hm
      exact hne (hid ▸ ((hmem c).mp hc).2)
  constructor
  · intro a ha hlt
    by_cases heq : lvOf lv a.id = level
    · obtain ⟨r, hr, _⟩ := h2 a ((hmem a).mpr ⟨ha, heq⟩)
      exact ⟨r, hr⟩
    · rw [hother a heq]
      exact h.1 a ha (by omega)
  · intro a ha b hb hab hlv hlt
    by_cases heq : lvOf lv a.id = level
    · exact h3 a ((hmem a).mpr ⟨ha, heq⟩) b ((hmem b).mpr ⟨hb, hlv ▸ heq⟩) hab
    · rw [hother a heq, hother b (hlv ▸ heq)]
      exact h.2 a ha b hb hab hlv (by omega)

theorem rowsLoop_spec (nodes : List LNode) (lv : Map Nat) (edges : List LEdge)
    (hnd : (nodes.map (·.id)).Nodup) : ∀ (todo level : Nat) (rows : Map Nat),
    RowsOk nodes lv level rows → RowsOk nodes lv (level + todo) (rowsLoop nodes lv edges todo level rows) := by
  intro todo
  induction todo with
  | zero => exact fun _ _ h => h
  | succ todo ih =>
    intro level rows h
    rw [rowsLoop, ← Nat.add_assoc, Nat.add_right_comm]
    exact ih (level + 1) _ (placeLevel_rowsOk edges hnd h (sortNodes_perm _ _))

theorem foldl_ge {α β : Type} [LE β] (refl : ∀ b : β, b ≤ b) (trans : ∀ {a b c : β}, a ≤ b → b ≤ c → a ≤ c)
    (g : β → α → β) (f : α → β) (h1 : ∀ m x, m ≤ g m x) (h2 : ∀ m x, f x ≤ g m x) :
    ∀ (l : List α) (m : β), m ≤ l.foldl g m ∧ ∀ a ∈ l, f a ≤ l.foldl g m := by
  intro l
  induction l with
  | nil => exact fun m => ⟨refl m, fun _ h => (nomatch h)⟩
  | cons x xs ih =>
    intro m
    obtain ⟨i1, i2⟩ := ih (g m x)
    refine ⟨trans (h1 m x) i1, fun a ha => ?_⟩
    rcases List.mem_cons.mp ha with rfl | ha
    · exact trans (h2 m a) i1
    · exact i2 a ha

theorem le_maxLevel (nodes : List LNode) (lv : Map Nat) : ∀ a ∈ nodes, lvOf lv a.id ≤ maxLevel nodes lv :=
  (foldl_ge Nat.le_refl Nat.le_trans _ (fun n => lvOf lv n.id) (fun _ _ => Nat.le_max_left ..)
    (fun _ _ => Nat.le_max_right ..) nodes 0).2

theorem computeRows_distinct (nodes : List LNode) (lv : Map Nat) (edges : List LEdge)
    (hnd : (nodes.map (·.id)).Nodup) :
    ∀ a ∈ nodes, ∀ b ∈ nodes, a.id ≠ b.id → lvOf lv a.id = lvOf lv b.id →
      (rowOf (computeRows nodes lv edges) a.id).getD 0 ≠ (rowOf (computeRows nodes lv edges) b.id).getD 0 := by
  have h := rowsLoop_spec nodes lv edges hnd (maxLevel nodes lv + 1) 0 []
    ⟨fun _ _ h => (nomatch h), fun _ _ _ _ _ _ h => (nomatch h)⟩
  rw [Nat.zero_add] at h
  intro a ha b hb hab hlv
  have hla := Nat.lt_succ_of_le (le_maxLevel nodes lv a ha)
  obtain ⟨ra, hra⟩ := h.1 a ha hla
  obtain ⟨rb, hrb⟩ := h.1 b hb (hlv ▸ hla)
  have hne := h.2 a ha b hb hab hlv hla
  unfold computeRows
  rw [hra, hrb] at hne ⊢
  exact fun heq => hne (congrArg some heq)

/-- largest node size (plain units): `flowNodeDefaultSize` never returns more -/
def maxW : Nat := 120
def maxH : Nat := 100

def SizeOk (scale : Nat) (m : LNode) : Prop :=
  0 ≤ m.w ∧ m.w ≤ ((maxW * scale : Nat) : Int) ∧ 0 ≤ m.h ∧ m.h ≤ ((maxH * scale : Nat) : Int)

theorem kind_size_le (k : Kind) : k.size.1 ≤ maxW ∧ k.size.2 ≤ maxH := by
  cases k <;> decide

theorem sizeOk_mk (scale : Nat) (i : Id) (ord : Nat) (k : Kind) :
    SizeOk scale ⟨i, ord, (k.size.1 * scale : Nat), (k.size.2 * scale : Nat)⟩ :=
  ⟨Int.natCast_nonneg _, Int.ofNat_le.mpr (Nat.mul_le_mul_right _ (kind_size_le k).1),
    Int.natCast_nonneg _, Int.ofNat_le.mpr (Nat.mul_le_mul_right _ (kind_size_le k).2)⟩

theorem collectNodesAux_spec (scale : Nat) : ∀ (l : List Node) (acc : List LNode),
    (acc.map (·.id)).Nodup → (∀ m ∈ acc, SizeOk scale m) →
    ((collectNodesAux scale l acc).map (·.id)).Nodup ∧ (∀ m ∈ collectNodesAux scale l acc, SizeOk scale m) := by
  intro l
  induction l with
  | nil => intro acc h1 h2; exact ⟨h1, h2⟩
  | cons n ns ih =>
    intro acc h1 h2
    rw [collectNodesAux]
    split
    · exact ih acc h1 h2
    · next hc =>
      refine ih _ ?_ ?_
      · rw [List.map_append, List.nodup_append]
        refine ⟨h1, List.nodup_cons.mpr ⟨List.not_mem_nil, .nil⟩, ?_⟩
        rintro _ ha _ hb rfl
        obtain ⟨m, hm, hid⟩ := List.mem_map.mp ha
        exact hc (List.any_eq_true.mpr ⟨m, hm, decide_eq_true (hid.trans (List.mem_singleton.mp hb))⟩)
      · intro m hm
        rcases List.mem_append.mp hm with hm | hm
        · exact h2 m hm
        · rw [List.mem_singleton.mp hm]; exact sizeOk_mk scale _ _ _

theorem collectNodes_spec (scale : Nat) (p : Proc) :
    ((collectNodes scale p).map (·.id)).Nodup ∧ ∀ m ∈ collectNodes scale p, SizeOk scale m :=
  collectNodesAux_spec scale _ [] .nil fun _ h => (nomatch h)

theorem collectNodesAux_ids (scale : Nat) : ∀ (l : List Node) (acc : List LNode),
    (acc.map (·.id) ++ l.map (·.id)).Nodup →
    (collectNodesAux scale l acc).map (·.id) = acc.map (·.id) ++ l.map (·.id) := by
  intro l
  induction l with
  | nil => intro acc _; rw [collectNodesAux, List.map_nil, List.append_nil]
  | cons n ns ih =>
    intro acc h
    have hnot : ¬ (acc.any (fun m => decide (m.id = n.id)) = true) := fun hany => by
      obtain ⟨m, hm, hid⟩ := List.any_eq_true.mp hany
      exact (List.nodup_append.mp h).2.2 m.id (List.mem_map.mpr ⟨m, hm, rfl⟩) n.id List.mem_cons_self
        (of_decide_eq_true hid)
    rw [List.map_cons, List.append_cons] at h ⊢
    rw [collectNodesAux, if_neg hnot, ih _ (by rwa [List.map_append]), List.map_append]
    rfl

theorem collectNodes_ids (scale : Nat) (p : Proc) (hnd : (p.nodes.map (·.id)).Nodup) :
    (collectNodes scale p).map (·.id) = (flowNodes p).map (·.id) :=
  collectNodesAux_ids scale (flowNodes p) [] (((sortByRank_perm p.nodes).map _).nodup_iff.mpr hnd)

def GapsCover (cfg : Cfg) : Prop :=
  ((maxW * cfg.scale : Nat) : Int) ≤ cfg.cg ∧ ((maxH * cfg.scale : Nat) : Int) ≤ cfg.rg ∧
    ((maxH * cfg.scale : Nat) : Int) ≤ cfg.pg

theorem mul_step {a b : Nat} {c : Int} (hc : 0 ≤ c) (h : a < b) : (a : Int) * c + c ≤ (b : Int) * c := by
  have h1 := Int.mul_le_mul_of_nonneg_right (Int.ofNat_le.mpr (Nat.succ_le_of_lt h)) hc
  rwa [Int.natCast_succ, Int.add_mul, Int.one_mul] at h1

theorem col_sep {i j : Nat} {g w : Int} (h : i < j) (hw : w ≤ g) (hg : 0 ≤ g) (x : Int) :
    x + i * g + w ≤ x + j * g := by
  rw [Int.add_assoc]
  exact Int.add_le_add_left (Int.le_trans (Int.add_le_add_left hw _) (mul_step hg h)) x

/-- nodes are centred on their row's line -/
theorem row_sep {i j : Nat} {g p q : Int} (h : i < j) (hp : p ≤ g) (hq : 0 ≤ q ∧ q ≤ g) (y : Int) :
    y + i * g - p / 2 + p ≤ y + j * g - q / 2 := by
  have := mul_step (Int.le_trans hq.1 hq.2) h; omega

theorem disjoint_iff (a b : Shape) :
    disjoint a b = true ↔ (a.x + a.w ≤ b.x ∨ b.x + b.w ≤ a.x ∨ a.y + a.h ≤ b.y ∨ b.y + b.h ≤ a.y) := by
  simp only [disjoint, Bool.or_eq_true, decide_eq_true_eq, or_assoc]

theorem onBorder_iff (s : Shape) (pt : Int × Int) : onBorder s pt = true ↔
    (((s.x ≤ pt.1 ∧ pt.1 ≤ s.x + s.w) ∧ s.y ≤ pt.2) ∧ pt.2 ≤ s.y + s.h) ∧
      (((pt.1 = s.x ∨ pt.1 = s.x + s.w) ∨ pt.2 = s.y) ∨ pt.2 = s.y + s.h) := by
  simp only [onBorder, Bool.and_eq_true, Bool.or_eq_true, decide_eq_true_eq]

theorem waypoints_ends (scale : Nat) (s t : Shape) :
    (waypoints scale s t).head? = some (s.x + s.w, s.y + s.h / 2) ∧
    (waypoints scale s t).getLast? = some (t.x, t.y + t.h / 2) := by
  simp only [waypoints]
  split <;> exact ⟨rfl, rfl⟩

theorem position_disjoint (cfg : Cfg) (hg : GapsCover cfg) (startY : Int) (lv rows : Map Nat) (a b : LNode)
    (ha : SizeOk cfg.scale a) (hb : SizeOk cfg.scale b)
    (hcell : lvOf lv a.id ≠ lvOf lv b.id ∨ (rowOf rows a.id).getD 0 ≠ (rowOf rows b.id).getD 0) :
    disjoint (position cfg startY lv rows a) (position cfg startY lv rows b) = true := by
  have hcg : 0 ≤ cfg.cg := Int.le_trans (Int.natCast_nonneg _) hg.1
  have hw {c : LNode} (hc : SizeOk cfg.scale c) : c.w ≤ cfg.cg := Int.le_trans hc.2.1 hg.1
  have hh {c : LNode} (hc : SizeOk cfg.scale c) : c.h ≤ cfg.rg := Int.le_trans hc.2.2.2 hg.2.1
  rw [disjoint_iff]
  rcases hcell with h | h
  · rcases Nat.lt_or_gt_of_ne h with h | h
    · exact .inl (col_sep h (hw ha) hcg _)
    · exact .inr (.inl (col_sep h (hw hb) hcg _))
  · rcases Nat.lt_or_gt_of_ne h with h | h
    · exact .inr (.inr (.inl (row_sep h (hh ha) ⟨hb.2.2.1, hh hb⟩ _)))
    · exact .inr (.inr (.inr (row_sep h (hh hb) ⟨ha.2.2.1, hh ha⟩ _)))

theorem position_y_ge (cfg : Cfg) (hg : GapsCover cfg) (startY : Int) (lv rows : Map Nat) {a : LNode}
    (ha : SizeOk cfg.scale a) : startY - ((maxH * cfg.scale : Nat) : Int) / 2 ≤ (position cfg startY lv rows a).y :=
  Int.sub_le_sub
    (Int.le_add_of_nonneg_right (Int.mul_nonneg (Int.natCast_nonneg _) (Int.le_trans (Int.natCast_nonneg _) hg.2.1)))
    (Int.ediv_le_ediv (by decide) ha.2.2.2)

theorem nameShapes_spec (o : Nat → Nat) : ∀ (l : List Shape) (n : Nat),
    (nameShapes o n l).map (·.elem) = l.map (·.elem) ∧
    (∀ s ∈ nameShapes o n l, ∃ s' ∈ l, ∃ i, s = { s' with id := i }) ∧
    (∀ s' ∈ l, ∃ i, { s' with id := i } ∈ nameShapes o n l) := by
  intro l
  induction l with
  | nil => exact fun _ => ⟨rfl, fun _ h => (nomatch h), fun _ h => (nomatch h)⟩
  | cons s ss ih =>
    intro n
    obtain ⟨h1, h2, h3⟩ := ih (n + 1)
    rw [nameShapes]
    refine ⟨congrArg (s.elem :: ·) h1, fun t ht => ?_, fun s' hs' => ?_⟩
    · rcases List.mem_cons.mp ht with rfl | ht
      · exact ⟨s, List.mem_cons_self, _, rfl⟩
      · obtain ⟨s', hs', h⟩ := h2 t ht
        exact ⟨s', List.mem_cons_of_mem _ hs', h⟩
    · rcases List.mem_cons.mp hs' with rfl | hs'
      · exact ⟨_, List.mem_cons_self⟩
      · obtain ⟨i, hi⟩ := h3 s' hs'
        exact ⟨i, List.mem_cons_of_mem _ hi⟩

def lpPos (cfg : Cfg) (startY : Int) (p : Proc) : List Shape :=
  let nodes := collectNodes cfg.scale p
  let lv := computeLevels nodes (collectEdges p)
  nodes.map (position cfg startY lv (computeRows nodes lv (collectEdges p)))

def lpBottom (cfg : Cfg) (startY : Int) (p : Proc) : Int :=
  (lpPos cfg startY p).foldl (fun m s => if s.y + s.h > m then s.y + s.h else m) startY

def lpHeight (cfg : Cfg) (startY : Int) (p : Proc) : Int :=
  if lpBottom cfg startY p - startY < minProcessHeight cfg.scale then minProcessHeight cfg.scale
  else lpBottom cfg startY p - startY

theorem layoutProcess_cases (o : Nat → Nat) (n : Nat) (cfg : Cfg) (startY : Int) (p : Proc) :
    (collectNodes cfg.scale p = [] ∧ layoutProcess o n cfg startY p = ([], [], minProcessHeight cfg.scale, n)) ∨
    ∃ m, layoutProcess o n cfg startY p = (nameShapes o n (lpPos cfg startY p),
      (buildEdges o cfg.scale (lpPos cfg startY p) m (collectEdges p)).1, lpHeight cfg startY p,
      (buildEdges o cfg.scale (lpPos cfg startY p) m (collectEdges p)).2) := by
  have h : layoutProcess o n cfg startY p = if (collectNodes cfg.scale p).isEmpty then _ else _ := rfl
  by_cases hemp : (collectNodes cfg.scale p).isEmpty = true
  · exact .inl ⟨List.isEmpty_iff.mp hemp, h.trans (if_pos hemp)⟩
  · exact .inr ⟨_, h.trans (if_neg hemp)⟩

theorem lpPos_elems (cfg : Cfg) (y : Int) (p : Proc) :
    (lpPos cfg y p).map (·.elem) = (collectNodes cfg.scale p).map (·.id) := by
  rw [lpPos, List.map_map]; rfl

theorem lpPos_sizes (cfg : Cfg) (y : Int) (p : Proc) : ∀ s ∈ lpPos cfg y p, 0 ≤ s.w ∧ 0 ≤ s.h := by
  intro s hs
  obtain ⟨a, ha, rfl⟩ := List.mem_map.mp hs
  obtain ⟨h1, _, h3, _⟩ := (collectNodes_spec cfg.scale p).2 a ha
  exact ⟨h1, h3⟩

theorem ite_ge (a b : Int) : a ≤ (if a < b then b else a) ∧ b ≤ (if a < b then b else a) := by
  split
  · next h => exact ⟨Int.le_of_lt h, Int.le_refl b⟩
  · next h => exact ⟨Int.le_refl a, Int.not_lt.mp h⟩

theorem lpHeight_spec (cfg : Cfg) (startY : Int) (p : Proc) :
    (∀ s ∈ lpPos cfg startY p, s.y + s.h ≤ startY + lpHeight cfg startY p) ∧ 0 ≤ lpHeight cfg startY p := by
  have hfold := (foldl_ge Int.le_refl Int.le_trans (fun m s => if s.y + s.h > m then s.y + s.h else m)
    (fun s : Shape => s.y + s.h) (fun m s => (ite_ge m _).1) (fun m s => (ite_ge m _).2) (lpPos cfg startY p) startY).2
  obtain ⟨k1, k2⟩ := ite_ge (lpBottom cfg startY p - startY) (minProcessHeight cfg.scale)
  exact ⟨fun s hs => Int.le_trans (hfold s hs) (Int.le_add_of_sub_left_le k1), Int.le_trans (Int.natCast_nonneg _) k2⟩

theorem lpPos_spec (cfg : Cfg) (hg : GapsCover cfg) (startY : Int) (p : Proc) :
    (∀ s ∈ lpPos cfg startY p, ∀ t ∈ lpPos cfg startY p, s.elem ≠ t.elem → disjoint s t = true) ∧
    (∀ s ∈ lpPos cfg startY p, startY - ((maxH * cfg.scale : Nat) : Int) / 2 ≤ s.y) := by
  obtain ⟨hnd, hsz⟩ := collectNodes_spec cfg.scale p
  constructor
  · intro s hs t ht hne
    obtain ⟨a, ha, rfl⟩ := List.mem_map.mp hs
    obtain ⟨b, hb, rfl⟩ := List.mem_map.mp ht
    refine position_disjoint cfg hg startY _ _ a b (hsz a ha) (hsz b hb) ?_
    exact (Decidable.em _).elim (fun hl => .inr (computeRows_distinct _ _ _ hnd a ha b hb hne hl)) .inl
  · intro s hs
    obtain ⟨a, ha, rfl⟩ := List.mem_map.mp hs
    exact position_y_ge cfg hg startY _ _ (hsz a ha)

theorem layoutProcess_shapes (o : Nat → Nat) (n : Nat) (cfg : Cfg) (startY : Int) (p : Proc) (hg : GapsCover cfg) :
    (∀ s ∈ (layoutProcess o n cfg startY p).1, ∀ t ∈ (layoutProcess o n cfg startY p).1,
        s.elem ≠ t.elem → disjoint s t = true) ∧
    (∀ s ∈ (layoutProcess o n cfg startY p).1,
        startY - ((maxH * cfg.scale : Nat) : Int) / 2 ≤ s.y ∧
        s.y + s.h ≤ startY + (layoutProcess o n cfg startY p).2.2.1) ∧
    0 ≤ (layoutProcess o n cfg startY p).2.2.1 := by
  have hc := layoutProcess_cases o n cfg startY p
  generalize layoutProcess o n cfg startY p = r at hc ⊢
  rcases hc with ⟨_, rfl⟩ | ⟨m, rfl⟩
  · exact ⟨fun _ h => (nomatch h), fun _ h => (nomatch h), Int.natCast_nonneg _⟩
  · obtain ⟨hdis, hlow⟩ := lpPos_spec cfg hg startY p
    obtain ⟨_, hn, _⟩ := nameShapes_spec o (lpPos cfg startY p) n
    obtain ⟨hbot, hh⟩ := lpHeight_spec cfg startY p
    dsimp only
    refine ⟨?_, ?_, hh⟩
    · intro s hs t ht hne
      obtain ⟨s', hs', i, rfl⟩ := hn s hs
      obtain ⟨t', ht', j, rfl⟩ := hn t ht
      exact hdis s' hs' t' ht' hne
    · intro s hs
      obtain ⟨s', hs', i, rfl⟩ := hn s hs
      exact ⟨hlow s' hs', hbot s' hs'⟩

theorem layoutAll_cons (o : Nat → Nat) (cfg : Cfg) (n : Nat) (y : Int) (p : Proc) (ps : List Proc) :
    let r := layoutProcess o n cfg y p
    let r' := layoutAll o cfg r.2.2.2 (y + r.2.2.1 + cfg.pg) ps
    (layoutAll o cfg n y (p :: ps)).1 = r.1 ++ r'.1 ∧ (layoutAll o cfg n y (p :: ps)).2.1 = r.2.1 ++ r'.2.1 :=
  ⟨rfl, rfl⟩

/-- no two shapes of the whole diagram overlap: of one process when they are of different nodes, of different
processes always -/
theorem layoutAll_shapes (o : Nat → Nat) (cfg : Cfg) (hg : GapsCover cfg) : ∀ (procs : List Proc) (n : Nat) (y : Int),
    (∀ s ∈ (layoutAll o cfg n y procs).1, y - ((maxH * cfg.scale : Nat) : Int) / 2 ≤ s.y) ∧
    (layoutAll o cfg n y procs).1.Pairwise (fun s t => s.elem ≠ t.elem → disjoint s t = true) := by
  intro procs
  induction procs with
  | nil => exact fun _ _ => ⟨fun _ h => (nomatch h), .nil⟩
  | cons p ps ih =>
    intro n y
    rw [(layoutAll_cons o cfg n y p ps).1]
    have hp := layoutProcess_shapes o n cfg y p hg
    generalize layoutProcess o n cfg y p = r at hp ⊢
    obtain ⟨hdis, hext, hh⟩ := hp
    obtain ⟨ih1, ih2⟩ := ih r.2.2.2 (y + r.2.2.1 + cfg.pg)
    -- `d`: half the largest height; the process gap is at least that
    have hd : ((maxH * cfg.scale : Nat) : Int) / 2 ≤ cfg.pg :=
      Int.le_trans (Int.ediv_le_self 2 (Int.natCast_nonneg _)) hg.2.2
    have hpg : 0 ≤ cfg.pg := Int.le_trans (Int.natCast_nonneg _) hg.2.2
    generalize ((maxH * cfg.scale : Nat) : Int) / 2 = d at hd hext ih1 ⊢
    constructor
    · intro s hs
      rcases List.mem_append.mp hs with hs | hs
      · exact (hext s hs).1
      · have := ih1 s hs
        omega
    · refine List.pairwise_append.mpr ⟨List.pairwise_of_forall_mem_list hdis, ih2, fun s hs t ht _ => ?_⟩
      -- a shape of a later process lies below every shape of this one
      have := (hext s hs).2
      have := ih1 t ht
      exact (disjoint_iff s t).mpr (.inr (.inr (.inl (by omega))))

theorem find?_elem {bounds : List Shape} {i : Id} (h : ∃ s ∈ bounds, s.elem = i) :
    ∃ s, bounds.find? (fun s => s.elem = i) = some s := by
  obtain ⟨s, hs, hi⟩ := h
  exact Option.isSome_iff_exists.mp (List.find?_isSome.mpr ⟨s, hs, decide_eq_true hi⟩)

theorem buildEdges_spec (o : Nat → Nat) (scale : Nat) (bounds : List Shape) : ∀ (edges : List LEdge) (n : Nat),
    (∀ e ∈ (buildEdges o scale bounds n edges).1, ∃ s ∈ bounds, ∃ t ∈ bounds,
        s.elem = e.src ∧ t.elem = e.tgt ∧ e.wps = waypoints scale s t) ∧
    ((∀ e ∈ edges, (∃ s ∈ bounds, s.elem = e.src) ∧ (∃ t ∈ bounds, t.elem = e.tgt)) →
        (buildEdges o scale bounds n edges).1.map (·.elem) = edges.map (·.id)) := by
  intro edges
  induction edges with
  | nil => intro n; rw [buildEdges]; exact ⟨fun _ h => (nomatch h), fun _ => rfl⟩
  | cons e es ih =>
    intro n
    rw [buildEdges]
    split
    · next s t hs ht =>
      have hs' := List.find?_some hs
      have ht' := List.find?_some ht
      refine ⟨fun e' he' => ?_, fun hall => ?_⟩
      · rcases List.mem_cons.mp he' with rfl | he'
        · exact ⟨s, List.mem_of_find?_eq_some hs, t, List.mem_of_find?_eq_some ht,
            of_decide_eq_true hs', of_decide_eq_true ht', rfl⟩
        · exact (ih (n + 1)).1 e' he'
      · exact congrArg (e.id :: ·) ((ih (n + 1)).2 fun e' he' => hall e' (List.mem_cons_of_mem _ he'))
    · next hno =>
      refine ⟨(ih n).1, fun hall => ?_⟩
      obtain ⟨s, hs⟩ := find?_elem (hall e List.mem_cons_self).1
      obtain ⟨t, ht⟩ := find?_elem (hall e List.mem_cons_self).2
      exact absurd ht (hno s t hs)

end Bpmn.Lemmas.BuilderLayout
