import Bpmn.Model.Tracer
/-! Lemmas for C09 about the tracer model. `step` is restated once as a relation (`Step`, one constructor per way an
action is enabled); everything else is a case analysis over it: the invariant `Inv` (the segment invariant and what
supports it), checked channel by channel (`ChanInv`), and the sender-order invariant `SInv`. -/
namespace Bpmn.Model.Tracer

theorem swapRemove_perm {a b : List Nat} {c : Nat} (hc : c ∉ a) :
    (swapRemove (a ++ c :: b) ((a ++ c :: b).idxOf c)).Perm (a ++ b) := by
  have hidx : (a ++ c :: b).idxOf c = a.length := by
    rw [List.idxOf_append]; simp [hc]
  rw [hidx]
  unfold swapRemove
  rcases List.eq_nil_or_concat b with rfl | ⟨b', z, rfl⟩
  · have : (a ++ [c]).getLastD 0 = c := List.getLastD_concat
    rw [this, List.set_append]
    simp
  · have e1 : a ++ c :: b'.concat z = (a ++ c :: b') ++ [z] := by simp
    have : (a ++ c :: b'.concat z).getLastD 0 = z := by rw [e1]; exact List.getLastD_concat
    rw [this, List.set_append]
    simp only [Nat.lt_irrefl, if_false, Nat.sub_self, List.set_cons_zero, List.concat_eq_append]
    have e2 : a ++ z :: (b' ++ [z]) = (a ++ z :: b') ++ [z] := by simp
    rw [e2, List.dropLast_concat]
    exact List.Perm.append_left a (List.perm_append_comm (l₁ := [z]) (l₂ := b'))

theorem swapRemove_spec {l : List Nat} {c : Nat} (hc : c ∈ l) (hn : l.Nodup) :
    (swapRemove l (l.idxOf c)).Nodup ∧ ∀ y, y ∈ swapRemove l (l.idxOf c) ↔ (y ∈ l ∧ y ≠ c) := by
  obtain ⟨a, b, rfl⟩ := List.append_of_mem hc
  obtain ⟨ha, hcb, hab⟩ := List.nodup_append.mp hn
  have hca : c ∉ a := fun h => hab c h c (List.mem_cons_self ..) rfl
  obtain ⟨hcb', hb⟩ := List.nodup_cons.mp hcb
  have hp := swapRemove_perm (b := b) hca
  refine ⟨hp.nodup_iff.mpr (List.nodup_append.mpr ⟨ha, hb, fun x hx y hy => hab x hx y (List.mem_cons_of_mem _ hy)⟩),
    fun y => ?_⟩
  rw [hp.mem_iff]
  by_cases e : y = c
  · subst e; simp [hca, hcb']
  · simp [e]

/-- the last trace of the log is what a completed push adds to a segment -/
theorem segment_grow {log : List Msg} {x : Msg} {st : Nat} (hl : log.getLast? = some x)
    (hst : st ≤ log.length - 1) :
    (log.take log.length).drop st = (log.take (log.length - 1)).drop st ++ [x] := by
  obtain ⟨l0, rfl⟩ := List.getLast?_eq_some_iff.mp hl
  simp only [List.length_append, List.length_cons, List.length_nil, Nat.add_sub_cancel] at hst ⊢
  rw [List.take_left' rfl, List.take_of_length_le (by simp), List.drop_append_of_le_length hst]

theorem drop_at {l : List Nat} {i d : Nat} (hn : l.Nodup) (hd : l[i]? = some d) :
    l.drop i = d :: l.drop (i + 1) ∧ d ∉ l.drop (i + 1) := by
  obtain ⟨hi, hd'⟩ := List.getElem?_eq_some_iff.mp hd
  have e : l.drop i = d :: l.drop (i + 1) := by rw [List.drop_eq_getElem_cons hi, hd']
  refine ⟨e, ?_⟩
  have : (l.drop i).Nodup := hn.sublist (List.drop_sublist i l)
  rw [e] at this
  exact (List.nodup_cons.mp this).1

theorem prefix_of_range {l1 l2 : List Nat} {n : Nat} (h : l1 ++ l2 = List.range n) :
    l1 = List.range l1.length := by
  have hl : l1.length ≤ n := by have := congrArg List.length h; simp at this; omega
  simpa [List.take_range, Nat.min_eq_left hl] using congrArg (List.take l1.length) h

theorem sumTo_succ (n : Nat) (w : Nat → Nat) : sumTo (n + 1) w = sumTo n w + w n := by
  simp [sumTo, List.range_succ]

theorem sumTo_congr {n : Nat} {w w' : Nat → Nat} (h : ∀ j, j < n → w' j = w j) : sumTo n w' = sumTo n w := by
  induction n with
  | zero => rfl
  | succ n ih =>
    rw [sumTo_succ, sumTo_succ, ih (fun j hj => h j (by omega)), h n (by omega)]

theorem sumTo_update {n c : Nat} {w w' : Nat → Nat} (hc : c < n) (h : ∀ j, j ≠ c → w' j = w j) :
    sumTo n w' + w c = sumTo n w + w' c := by
  induction n with
  | zero => omega
  | succ n ih =>
    rw [sumTo_succ, sumTo_succ]
    by_cases hcn : c = n
    · subst hcn
      rw [sumTo_congr (w := w) (w' := w') (fun j hj => h j (by omega))]
      omega
    · have := ih (by omega)
      rw [h n (fun e => hcn e.symm)]
      omega

@[simp] theorem upd_chan (s : St) (c : Nat) (f : Chan → Chan) (j : Nat) :
    (s.upd c f).chan j = if j = c then f (s.chan j) else s.chan j := rfl
@[simp] theorem upd_subs (s : St) (c : Nat) (f : Chan → Chan) : (s.upd c f).subs = s.subs := rfl
@[simp] theorem upd_pc (s : St) (c : Nat) (f : Chan → Chan) : (s.upd c f).pc = s.pc := rfl
@[simp] theorem upd_log (s : St) (c : Nat) (f : Chan → Chan) : (s.upd c f).log = s.log := rfl
@[simp] theorem upd_pending (s : St) (c : Nat) (f : Chan → Chan) : (s.upd c f).pending = s.pending := rfl
@[simp] theorem upd_next (s : St) (c : Nat) (f : Chan → Chan) : (s.upd c f).next = s.next := rfl
@[simp] theorem upd_misuse (s : St) (c : Nat) (f : Chan → Chan) : (s.upd c f).misuse = s.misuse := rfl
@[simp] theorem upd_nchan (s : St) (c : Nat) (f : Chan → Chan) : (s.upd c f).nchan = s.nchan := rfl

theorem deliver_eq (s : St) (d : Nat) (x : Msg) (i : Nat) :
    s.deliver d x i = { s.upd d (fun ch => { ch with buf := ch.buf ++ [x] }) with
      pc := if i + 1 < s.subs.length then .push x (i + 1) else .idle } := by
  unfold St.deliver St.advance
  by_cases h : i + 1 < s.subs.length <;> simp [h]

/-- the fields the sender-order invariant and the misuse flag live in -/
def St.same (s s' : St) : Prop :=
  s'.log = s.log ∧ s'.pending = s.pending ∧ s'.next = s.next ∧ s'.misuse = s.misuse ∧ s'.nchan = s.nchan ∧
  s'.subs = s.subs

theorem same_refl (s : St) : s.same s := ⟨rfl, rfl, rfl, rfl, rfl, rfl⟩

/-- what `take` returns: the reader of `c` (`dr`: its `Unsubscribe` loop) has taken `m` and left `t` queued -/
def St.took (s : St) (c : Nat) (dr : Bool) (m : Msg) (t : List Msg) : St :=
  s.upd c (fun ch => if dr then { ch with buf := t, drained := ch.drained ++ [m] }
                     else { ch with buf := t, recvd := ch.recvd ++ [m] })

/-- A read that finds the queue empty takes the trace from the broadcaster's hand: a push (whatever the capacity) and the
take at once. -/
inductive Step (cfg : Cfg) (s : St) : Act → St → Prop
  | callSub (cap : Nat) : Step cfg s (.callSub cap)
      { s.upd s.nchan (fun _ => { cap := cap, stat := .subWait }) with nchan := s.nchan + 1 }
  | callUnsub {c : Nat} (hst : (s.chan c).stat = .active) :
      Step cfg s (.callUnsub c) (s.upd c (fun ch => { ch with stat := .unsubOffer }))
  | misuse {c : Nat} (hst : (s.chan c).stat = .done) :
      Step cfg s (.callUnsub c) { s.upd c (fun ch => { ch with stat := .unsubOffer }) with misuse := true }
  | callSend {sd : Nat} (hp : s.pending.any (fun m => m.sender == sd) = false) :
      Step cfg s (.callSend sd) { s with pending := s.pending ++ [⟨sd, s.next sd⟩],
                                         next := fun j => if j = sd then s.next sd + 1 else s.next j }
  | recvTrace {k : Nat} {x : Msg} (hpc : s.pc = .idle) (hx : s.pending[k]? = some x) :
      Step cfg s (.recvTrace k) (s.takeTrace k x)
  | recvSub {c : Nat} (hpc : s.pc = .idle) (hst : (s.chan c).stat = .subWait) :
      Step cfg s (.recvSub c) (s.acceptSub c)
  | recvUnsub {c : Nat} (hpc : s.pc = .idle) (hst : (s.chan c).stat = .unsubOffer) (hc : c ∈ s.subs) :
      Step cfg s (.recvUnsub c) (s.removeSub c)
  | recvUnsubMiss {c : Nat} (hpc : s.pc = .idle) (hst : (s.chan c).stat = .unsubOffer) (hc : c ∉ s.subs) :
      Step cfg s (.recvUnsub c) s
  | push {x : Msg} {i d : Nat} (hpc : s.pc = .push x i) (hd : s.subs[i]? = some d)
      (hcap : (s.chan d).buf.length < (s.chan d).cap) : Step cfg s .push (s.deliver d x i)
  | consume {c : Nat} {m : Msg} {t : List Msg} (hst : (s.chan c).stat = .active) (hb : (s.chan c).buf = m :: t) :
      Step cfg s (.consume c) (s.took c false m t)
  | consumeDirect {c : Nat} {x : Msg} {i : Nat} (hst : (s.chan c).stat = .active) (hb : (s.chan c).buf = [])
      (hpc : s.pc = .push x i) (hc : s.subs[i]? = some c) :
      Step cfg s (.consume c) ((s.deliver c x i).took c false x [])
  | drain {c : Nat} {m : Msg} {t : List Msg} (hdr : cfg.unsubDrains = true)
      (hst : (s.chan c).stat = .unsubOffer ∨ (s.chan c).stat = .unsubWaitOk) (hb : (s.chan c).buf = m :: t) :
      Step cfg s (.drain c) (s.took c true m t)
  | drainDirect {c : Nat} {x : Msg} {i : Nat} (hdr : cfg.unsubDrains = true)
      (hst : (s.chan c).stat = .unsubOffer ∨ (s.chan c).stat = .unsubWaitOk) (hb : (s.chan c).buf = [])
      (hpc : s.pc = .push x i) (hc : s.subs[i]? = some c) :
      Step cfg s (.drain c) ((s.deliver c x i).took c true x [])
  | subReturn {c : Nat} (hst : (s.chan c).stat = .subAcked) :
      Step cfg s (.subReturn c) (s.upd c (fun ch => { ch with stat := .active }))
  | takeOk {c : Nat} (hpc : s.pc = .ackUnsub c) (hst : (s.chan c).stat = .unsubWaitOk) :
      Step cfg s (.takeOk c) (s.finishUnsub c)

variable {cfg : Cfg} {s s' : St} {a : Act} {c : Nat}

theorem offering_iff {x : Msg} {i : Nat} :
    s.offering c = some (x, i) ↔ s.pc = .push x i ∧ s.subs[i]? = some c := by
  unfold St.offering
  cases s.pc with
  | push y j =>
    simp only [Option.ite_none_right_eq_some, Option.some.injEq, Prod.mk.injEq, Pc.push.injEq]
    constructor
    · rintro ⟨h, rfl, rfl⟩; exact ⟨⟨rfl, rfl⟩, h⟩
    · rintro ⟨⟨rfl, rfl⟩, h⟩; exact ⟨h, rfl, rfl⟩
  | _ => simp

theorem read_eq (s : St) (c : Nat) (dr : Bool) :
    s.read c dr = match (s.chan c).buf, s.offering c with
      | m :: t, _ => some (s.took c dr m t)
      | [], some (x, i) => some ((s.deliver c x i).took c dr x [])
      | [], none => none := by
  unfold St.read St.take
  cases hb : (s.chan c).buf with
  | cons m t => rfl
  | nil =>
    cases s.offering c with
    | none => rfl
    | some p => simp [deliver_eq, hb, St.took]

theorem step_iff : step cfg s a = some s' ↔ Step cfg s a s' := by
  constructor
  · -- each branch of `step` is the constructor of its name
    intro h
    cases a <;> simp only [step, read_eq] at h
    case callSub cap => cases h; exact .callSub cap
    case callUnsub c =>
      split at h <;> cases h
      · exact .callUnsub ‹_›
      · exact .misuse ‹_›
    case callSend sd => split at h <;> cases h; exact .callSend (Bool.eq_false_iff.mpr ‹_›)
    case recvTrace k => split at h <;> cases h; exact .recvTrace ‹_› ‹_›
    case recvSub c => split at h <;> cases h; exact .recvSub ‹_› ‹_›
    case recvUnsub c =>
      split at h <;> (try split at h) <;> cases h
      · exact .recvUnsub ‹_› ‹_› ‹_›
      · exact .recvUnsubMiss ‹_› ‹_› ‹_›
    case push => split at h <;> (try split at h) <;> (try split at h) <;> cases h; exact .push ‹_› ‹_› ‹_›
    case consume c =>
      split at h <;> (try split at h) <;> cases h
      · exact .consume ‹_› ‹_›
      · exact .consumeDirect ‹_› ‹_› (offering_iff.mp ‹_›).1 (offering_iff.mp ‹_›).2
    case drain c =>
      split at h <;> (try split at h) <;> cases h
      all_goals
        have hg := ‹(_ && _) = true›
        simp only [Bool.and_eq_true, Bool.or_eq_true, beq_iff_eq] at hg
      · exact .drain hg.1 hg.2 ‹_›
      · exact .drainDirect hg.1 hg.2 ‹_› (offering_iff.mp ‹_›).1 (offering_iff.mp ‹_›).2
    case subReturn c => split at h <;> cases h; exact .subReturn ‹_›
    case takeOk c => split at h <;> (try split at h) <;> cases h; subst_vars; exact .takeOk ‹_› ‹_›
  · intro h
    cases h
    case consumeDirect hpc hc | drainDirect hpc hc => simp [step, read_eq, offering_iff.mpr ⟨hpc, hc⟩, *]
    all_goals simp [step, read_eq, *]

def CStat.listed : CStat → Bool
  | .subAcked | .active | .unsubOffer => true
  | _ => false

/-- not yet appended -/
def CStat.fresh : CStat → Bool
  | .absent | .subWait => true
  | _ => false

/-- appended and removed again -/
def CStat.removed : CStat → Bool
  | .unsubWaitOk | .done => true
  | _ => false

/-- everything that ever entered the channel, in order: what the consumer took, what `Unsubscribe` drained, what
is still queued -/
def Chan.total (ch : Chan) : List Msg := ch.recvd ++ ch.drained ++ ch.buf

/-- The inductive invariant (for runs without misuse). `seg` is the segment invariant; the rest supports it: `startLe`
makes the `drop` of `segment` say something, `pcPush` (the trace in hand is the last of the log) is what `segment_grow`
needs when a push completes, `noDrain` lets a consumer's read keep `total` (`inv_take`), `ack` ties the status
`unsubWaitOk` to the broadcaster's pc, the others say where the channels of each class of status are. -/
structure Inv (s : St) : Prop where
  nodup : s.subs.Nodup
  listed : ∀ c, c ∈ s.subs ↔ (s.chan c).stat.listed = true
  stopNone : ∀ c, (s.chan c).stat.removed = false → (s.chan c).stop = none
  stopSome : ∀ c, (s.chan c).stat.removed = true → ∃ e, (s.chan c).stop = some e ∧ e ≤ s.log.length
  fresh : ∀ c, (s.chan c).stat.fresh = true → (s.chan c).total = []
  alloc : ∀ c, s.nchan ≤ c → (s.chan c).stat = .absent
  pcPush : ∀ x i, s.pc = .push x i → i < s.subs.length ∧ s.log.getLast? = some x
  ack : ∀ c, (s.chan c).stat = .unsubWaitOk ↔ s.pc = .ackUnsub c
  startLe : ∀ c, (s.chan c).stat.fresh = false → (s.chan c).start ≤ s.upto c
  seg : ∀ c, (s.chan c).stat.fresh = false → (s.chan c).total = s.segment c
  noDrain : ∀ c, ((s.chan c).stat = .subAcked ∨ (s.chan c).stat = .active) → (s.chan c).drained = []

theorem inv_init : Inv init := by
  refine ⟨?_, ?_, ?_, ?_, ?_, ?_, ?_, ?_, ?_, ?_, ?_⟩ <;> simp [init, CStat.listed, CStat.removed, CStat.fresh, Chan.total]

theorem listed_iff (st : CStat) : st.listed = true ↔ st.fresh = false ∧ st.removed = false := by
  cases st <;> simp [CStat.fresh, CStat.listed, CStat.removed]

theorem fresh_eq_false {st : CStat} : st.fresh = false ↔ st ≠ .absent ∧ st ≠ .subWait := by
  cases st <;> simp [CStat.fresh]

theorem upto_congr (h1 : (s'.chan c).stop = (s.chan c).stop) (h2 : s'.pc = s.pc)
    (h3 : s'.subs = s.subs) (h4 : s'.log = s.log) : s'.upto c = s.upto c := by
  unfold St.upto; rw [h1, h2, h3, h4]

theorem upto_idle (hpc : s.pc = .idle ∨ ∃ d, s.pc = .ackUnsub d) (c : Nat) :
    s.upto c = (s.chan c).stop.getD s.log.length := by
  unfold St.upto
  rcases hpc with e | ⟨d, e⟩ <;> rw [e] <;> cases (s.chan c).stop <;> rfl

theorem upto_push {x : Msg} {i : Nat} (hpc : s.pc = .push x i) (hs : (s.chan c).stop = none) :
    s.upto c = if c ∈ s.subs.drop i then s.log.length - 1 else s.log.length := by
  simp only [St.upto, hs, hpc]

theorem upto_congr_idle (hpc : s.pc = .idle ∨ ∃ d, s.pc = .ackUnsub d)
    (hpc' : s'.pc = .idle ∨ ∃ d, s'.pc = .ackUnsub d)
    (hlog : s'.log = s.log) {j : Nat} (hs : (s'.chan j).stop = (s.chan j).stop) : s'.upto j = s.upto j := by
  rw [upto_idle hpc, upto_idle hpc', hs, hlog]

namespace Inv
variable (h : Inv s)
include h

theorem upto_le (c : Nat) : s.upto c ≤ s.log.length := by
  unfold St.upto
  split
  · next e he =>
    cases hr : (s.chan c).stat.removed with
    | true => obtain ⟨e', h1, h2⟩ := h.stopSome c hr; rw [he] at h1; cases h1; exact h2
    | false => rw [h.stopNone c hr] at he; cases he
  · split
    · split <;> omega
    all_goals exact Nat.le_refl _

theorem of_mem (hc : c ∈ s.subs) :
    (s.chan c).stat.fresh = false ∧ (s.chan c).stop = none :=
  have hl := (listed_iff _).mp ((h.listed c).mp hc)
  ⟨hl.1, h.stopNone c hl.2⟩

theorem lt_nchan (hc : (s.chan c).stat ≠ .absent) : c < s.nchan :=
  Nat.lt_of_not_le fun hle => hc (h.alloc c hle)

theorem buf_lt_nchan {m : Msg} {t : List Msg} (hb : (s.chan c).buf = m :: t) : c < s.nchan :=
  h.lt_nchan fun e => by have := h.fresh c (by rw [e]; rfl); simp [Chan.total, hb] at this

theorem mem_lt_nchan (hc : c ∈ s.subs) : c < s.nchan :=
  h.lt_nchan fun e => by have := (h.listed c).mp hc; rw [e] at this; cases this

end Inv

/-- what `Inv` says about channel `c` (but for `alloc`) -/
structure ChanInv (s : St) (c : Nat) : Prop where
  listed : c ∈ s.subs ↔ (s.chan c).stat.listed = true
  stopNone : (s.chan c).stat.removed = false → (s.chan c).stop = none
  stopSome : (s.chan c).stat.removed = true → ∃ e, (s.chan c).stop = some e ∧ e ≤ s.log.length
  fresh : (s.chan c).stat.fresh = true → (s.chan c).total = []
  ack : (s.chan c).stat = .unsubWaitOk ↔ s.pc = .ackUnsub c
  startLe : (s.chan c).stat.fresh = false → (s.chan c).start ≤ s.upto c
  seg : (s.chan c).stat.fresh = false → (s.chan c).total = s.segment c
  noDrain : ((s.chan c).stat = .subAcked ∨ (s.chan c).stat = .active) → (s.chan c).drained = []

theorem Inv.chan (h : Inv s) (c : Nat) : ChanInv s c :=
  ⟨h.listed c, h.stopNone c, h.stopSome c, h.fresh c, h.ack c, h.startLe c, h.seg c, h.noDrain c⟩

/-- `ChanInv s j` reads of `s`: channel `j`, whether `j` is in the list, whether the broadcaster is acknowledging `j`,
the log and `j`'s bound -/
theorem chanInv_congr {j : Nat} (h : ChanInv s j) (hch : s'.chan j = s.chan j)
    (hsubs : j ∈ s'.subs ↔ j ∈ s.subs) (hpc : s'.pc = .ackUnsub j ↔ s.pc = .ackUnsub j)
    (hlog : s'.log = s.log) (hup : s'.upto j = s.upto j) : ChanInv s' j := by
  have hseg : s'.segment j = s.segment j := by unfold St.segment; rw [hup, hlog, hch]
  refine ⟨?_, ?_, ?_, ?_, ?_, ?_, ?_, ?_⟩ <;> rw [hch]
  · rw [hsubs]; exact h.listed
  · exact h.stopNone
  · rw [hlog]; exact h.stopSome
  · exact h.fresh
  · rw [hpc]; exact h.ack
  · rw [hup]; exact h.startLe
  · rw [hseg]; exact h.seg
  · exact h.noDrain

/-- A step that appends nothing to the log and writes one channel `c`, an allocated one: the other channels keep their
part of the invariant when the step leaves what `chanInv_congr` lists alone. -/
theorem inv_change (h : Inv s) (c : Nat) (hnd : s'.subs.Nodup)
    (hpush : ∀ x i, s'.pc = .push x i → i < s'.subs.length ∧ s'.log.getLast? = some x)
    (hlog : s'.log = s.log) (hn : s.nchan ≤ s'.nchan) (hcn : c < s'.nchan)
    (hother : ∀ j, j ≠ c → s'.chan j = s.chan j ∧ (j ∈ s'.subs ↔ j ∈ s.subs) ∧
      (s'.pc = .ackUnsub j ↔ s.pc = .ackUnsub j) ∧ s'.upto j = s.upto j)
    (hc : ChanInv s' c) : Inv s' := by
  have hall : ∀ j, ChanInv s' j := fun j => by
    by_cases hj : j = c
    · exact hj ▸ hc
    · obtain ⟨h1, h2, h3, h4⟩ := hother j hj
      exact chanInv_congr (h.chan j) h1 h2 h3 hlog h4
  refine ⟨hnd, fun j => (hall j).listed, fun j => (hall j).stopNone, fun j => (hall j).stopSome, fun j => (hall j).fresh,
    fun j hj => ?_, hpush, fun j => (hall j).ack, fun j => (hall j).startLe, fun j => (hall j).seg,
    fun j => (hall j).noDrain⟩
  have hjc : j ≠ c := fun e => Nat.not_le_of_lt hcn (e ▸ hj)
  rw [(hother j hjc).1]; exact h.alloc j (Nat.le_trans hn hj)

/-- A step of a client that writes only its own channel `c` (a new one: `n = nchan + 1`), changing its status `st`
inside its class. -/
theorem inv_upd (h : Inv s) (c : Nat) (f : Chan → Chan) {n : Nat} (hn : s.nchan ≤ n) (hcn : c < n)
    {st : CStat} (hst : (s.chan c).stat = st)
    (hl : (f (s.chan c)).stat.listed = st.listed) (hr : (f (s.chan c)).stat.removed = st.removed)
    (hf : (f (s.chan c)).stat.fresh = st.fresh)
    (hack : (f (s.chan c)).stat = .unsubWaitOk ↔ st = .unsubWaitOk)
    (hstop : (f (s.chan c)).stop = (s.chan c).stop)
    (hstart : st.fresh = false → (f (s.chan c)).start = (s.chan c).start)
    (htot : (f (s.chan c)).total = (s.chan c).total)
    (hdr : ((f (s.chan c)).stat = .subAcked ∨ (f (s.chan c)).stat = .active) → (f (s.chan c)).drained = []) :
    Inv { s.upd c f with nchan := n } := by
  have hcc : ({ s.upd c f with nchan := n } : St).chan c = f (s.chan c) := by simp
  have hup : ∀ j, ({ s.upd c f with nchan := n } : St).upto j = s.upto j := by
    intro j
    refine upto_congr ?_ rfl rfl rfl
    by_cases hj : j = c
    · rw [hj, hcc, hstop]
    · simp [hj]
  have h0 := h.chan c
  subst hst
  refine inv_change h c h.nodup h.pcPush rfl hn hcn (fun j hj => ⟨by simp [hj], Iff.rfl, Iff.rfl, hup j⟩) ?_
  refine ⟨?_, ?_, ?_, ?_, ?_, ?_, ?_, ?_⟩ <;> rw [hcc]
  · rw [hl]; exact h0.listed
  · rw [hr, hstop]; exact h0.stopNone
  · rw [hr, hstop]; exact h0.stopSome
  · rw [hf, htot]; exact h0.fresh
  · rw [hack]; exact h0.ack
  · rw [hf, hup]; intro e; rw [hstart e]; exact h0.startLe e
  · rw [hf, htot]; intro e; unfold St.segment; rw [hup, hcc, hstart e]; exact h0.seg e
  · exact hdr

theorem inv_take (h : Inv s) {m : Msg} {t : List Msg} (dr : Bool) (hb : (s.chan c).buf = m :: t)
    (hdr : if dr then (s.chan c).stat ≠ .subAcked ∧ (s.chan c).stat ≠ .active else (s.chan c).drained = []) :
    Inv (s.took c dr m t) := by
  cases dr with
  | true =>
    exact inv_upd h c (fun ch => { ch with buf := t, drained := ch.drained ++ [m] }) (hn := Nat.le_refl _)
      (hcn := h.buf_lt_nchan hb) (hst := rfl) (hl := rfl) (hr := rfl) (hf := rfl) (hack := Iff.rfl)
      (hstop := rfl) (hstart := fun _ => rfl) (htot := by simp [Chan.total, hb])
      (hdr := fun e => absurd e (by simpa using hdr))
  | false =>
    have hd : (s.chan c).drained = [] := hdr
    exact inv_upd h c (fun ch => { ch with buf := t, recvd := ch.recvd ++ [m] }) (hn := Nat.le_refl _)
      (hcn := h.buf_lt_nchan hb) (hst := rfl) (hl := rfl) (hr := rfl) (hf := rfl) (hack := Iff.rfl)
      (hstop := rfl) (hstart := fun _ => rfl) (htot := by simp [Chan.total, hb, hd]) (hdr := fun _ => hd)

theorem inv_takeTrace (h : Inv s) (hpc : s.pc = .idle) (k : Nat) (x : Msg) : Inv (s.takeTrace k x) := by
  -- the bound of a channel in the list stays where it was: the new trace is still on its way to it
  have hup : ∀ j, (s.chan j).stat.fresh = false → (s.takeTrace k x).upto j = s.upto j := by
    intro j hf
    cases hs : (s.chan j).stop with
    | some e => simp only [St.upto, St.takeTrace, hs]
    | none =>
      have hl : j ∈ s.subs := by
        refine (h.listed j).mpr ((listed_iff _).mpr ⟨hf, Bool.eq_false_iff.mpr fun hr => ?_⟩)
        obtain ⟨e, he, _⟩ := h.stopSome j hr
        rw [hs] at he; cases he
      have hne : s.subs.isEmpty = false := by
        cases hsb : s.subs with
        | nil => rw [hsb] at hl; cases hl
        | cons a b => rfl
      rw [upto_push (s := s.takeTrace k x) (x := x) (i := 0) (by simp [St.takeTrace, hne]) hs, upto_idle (.inl hpc), hs]
      simp [St.takeTrace, hl]
  refine ⟨h.nodup, h.listed, h.stopNone, ?_, h.fresh, h.alloc, ?_, ?_, ?_, ?_, h.noDrain⟩
  · intro j hr
    obtain ⟨e, h1, h2⟩ := h.stopSome j hr
    exact ⟨e, h1, by simp [St.takeTrace]; omega⟩
  · intro y i hp
    simp only [St.takeTrace] at hp
    split at hp <;> cases hp
    next hne => exact ⟨List.length_pos_iff.mpr (show s.subs ≠ [] by simpa using hne), List.getLast?_concat ..⟩
  · intro j
    show (s.chan j).stat = _ ↔ _
    rw [h.ack j, hpc]
    simp only [St.takeTrace]
    split <;> simp
  · intro j hf
    rw [hup j hf]; exact h.startLe j hf
  · intro j hf
    unfold St.segment
    rw [hup j hf]
    exact (h.seg j hf).trans (by simp only [St.takeTrace, St.segment]; rw [List.take_append_of_le_length (h.upto_le j)])

theorem inv_acceptSub (h : Inv s) (hpc : s.pc = .idle) (hst : (s.chan c).stat = .subWait) :
    Inv (s.acceptSub c) := by
  have hnot : c ∉ s.subs := fun hm => by have := (h.listed c).mp hm; rw [hst] at this; cases this
  have hfr := h.fresh c (by rw [hst]; rfl)
  have hsn := h.stopNone c (by rw [hst]; rfl)
  simp only [Chan.total, List.append_eq_nil_iff] at hfr
  have hcc : (s.acceptSub c).chan c = { s.chan c with stat := .subAcked, start := s.log.length } := if_pos rfl
  have hup : (s.acceptSub c).upto c = s.log.length := by
    rw [upto_idle (s := s.acceptSub c) (.inl hpc), hcc]; show (s.chan c).stop.getD _ = _; rw [hsn]; rfl
  refine inv_change h c ?_ (fun y i hp => nomatch hpc.symm.trans hp) rfl (Nat.le_refl _) (h.lt_nchan (by simp [hst]))
    (fun j hj => ⟨if_neg hj, ?_, Iff.rfl, upto_congr_idle (s' := s.acceptSub c) (.inl hpc) (.inl hpc) rfl (congrArg Chan.stop (if_neg hj))⟩) ?_
  · refine List.nodup_append.mpr ⟨h.nodup, List.nodup_cons.mpr ⟨List.not_mem_nil, .nil⟩, fun a ha b hb e => hnot ?_⟩
    rwa [← List.mem_singleton.mp hb, ← e]
  · exact ⟨fun hm => (List.mem_append.mp hm).resolve_right fun e => hj (List.mem_singleton.mp e), List.mem_append_left _⟩
  · refine ⟨?_, ?_, ?_, ?_, ?_, ?_, ?_, ?_⟩ <;> rw [hcc]
    · exact iff_of_true (List.mem_append_right _ (List.mem_singleton_self c)) rfl
    · exact fun _ => hsn
    · exact nofun
    · exact nofun
    · exact iff_of_false nofun (fun e => nomatch hpc.symm.trans e)
    · rw [hup]; exact fun _ => Nat.le_refl _
    · unfold St.segment; rw [hup, hcc]; exact fun _ => by simp [Chan.total, hfr]
    · exact fun _ => hfr.1.2

theorem inv_removeSub (h : Inv s) (hpc : s.pc = .idle) (hst : (s.chan c).stat = .unsubOffer) :
    Inv (s.removeSub c) := by
  have hidle' : (s.removeSub c).pc = .idle ∨ ∃ d, (s.removeSub c).pc = .ackUnsub d := .inr ⟨c, rfl⟩
  obtain ⟨hnd, hm⟩ := swapRemove_spec ((h.listed c).mpr (by rw [hst]; rfl)) h.nodup
  have h0 := h.chan c
  have hf : (s.chan c).stat.fresh = false := by rw [hst]; rfl
  have hcc : (s.removeSub c).chan c = { s.chan c with stat := .unsubWaitOk, stop := some s.log.length } := if_pos rfl
  have hup : (s.removeSub c).upto c = s.upto c := by
    rw [upto_idle hidle', upto_idle (.inl hpc), h0.stopNone (by rw [hst]; rfl), hcc]; rfl
  refine inv_change h c hnd nofun rfl (Nat.le_refl _) (h.lt_nchan (by simp [hst]))
    (fun j hj => ⟨if_neg hj, ?_, ?_, upto_congr_idle (.inl hpc) hidle' rfl (congrArg Chan.stop (if_neg hj))⟩) ?_
  · exact (hm j).trans (and_iff_left hj)
  · rw [hpc]; exact iff_of_false (fun e => hj (Pc.ackUnsub.inj e).symm) nofun
  · refine ⟨?_, ?_, ?_, ?_, ?_, ?_, ?_, ?_⟩ <;> rw [hcc]
    · exact iff_of_false (fun hc => ((hm c).mp hc).2 rfl) nofun
    · exact nofun
    · exact fun _ => ⟨_, rfl, Nat.le_refl _⟩
    · exact nofun
    · exact iff_of_true rfl rfl
    · rw [hup]; exact fun _ => h0.startLe hf
    · unfold St.segment; rw [hup, hcc]; exact fun _ => h0.seg hf
    · exact fun e => e.elim nofun nofun

theorem inv_finishUnsub (h : Inv s) (hpc : s.pc = .ackUnsub c)
    (hst : (s.chan c).stat = .unsubWaitOk) : Inv (s.finishUnsub c) := by
  have hidle : s.pc = .idle ∨ ∃ d, s.pc = .ackUnsub d := .inr ⟨c, hpc⟩
  have h0 := h.chan c
  have hf : (s.chan c).stat.fresh = false := by rw [hst]; rfl
  have hcc : (s.finishUnsub c).chan c = { s.chan c with stat := .done } := if_pos rfl
  have hup : (s.finishUnsub c).upto c = s.upto c := upto_congr_idle (s' := s.finishUnsub c) hidle (.inl rfl) rfl (by rw [hcc])
  refine inv_change h c h.nodup nofun rfl (Nat.le_refl _) (h.lt_nchan (by simp [hst]))
    (fun j hj => ⟨if_neg hj, Iff.rfl, ?_, upto_congr_idle (s' := s.finishUnsub c) hidle (.inl rfl) rfl (congrArg Chan.stop (if_neg hj))⟩) ?_
  · rw [hpc]; exact iff_of_false nofun (fun e => hj (Pc.ackUnsub.inj e).symm)
  · refine ⟨?_, ?_, ?_, ?_, ?_, ?_, ?_, ?_⟩ <;> rw [hcc]
    · exact iff_of_false (fun hm => by have := h0.listed.mp hm; rw [hst] at this; cases this) nofun
    · exact nofun
    · exact fun _ => h0.stopSome (by rw [hst]; rfl)
    · exact nofun
    · exact iff_of_false nofun nofun
    · rw [hup]; exact fun _ => h0.startLe hf
    · unfold St.segment; rw [hup, hcc]; exact fun _ => h0.seg hf
    · exact fun e => e.elim nofun nofun

theorem upto_deliver (h : Inv s) {x : Msg} {i d : Nat} (hpc : s.pc = .push x i)
    (hd : s.subs[i]? = some d) (j : Nat) :
    (s.deliver d x i).upto j = if j = d then s.log.length else s.upto j := by
  obtain ⟨hdrop, hdn⟩ := drop_at h.nodup hd
  have hstop : ((s.deliver d x i).chan j).stop = (s.chan j).stop := by
    rw [deliver_eq]; simp only [upd_chan]; split <;> rfl
  cases hs : (s.chan j).stop with
  | some e =>
    have hjd : j ≠ d := by rintro rfl; rw [(h.of_mem (List.mem_of_getElem? hd)).2] at hs; cases hs
    simp only [St.upto, hstop, hs, hjd, if_false]
  | none =>
    have hnew : (s.deliver d x i).upto j = if j ∈ s.subs.drop (i + 1) then s.log.length - 1 else s.log.length := by
      by_cases hlt : i + 1 < s.subs.length
      · rw [upto_push (x := x) (i := i + 1) (by simp [deliver_eq, hlt]) (by rw [hstop, hs])]; simp [deliver_eq]
      · rw [upto_idle (by simp [deliver_eq, hlt]), hstop, hs, List.drop_eq_nil_of_le (by omega)]; simp [deliver_eq]
    rw [hnew, upto_push hpc hs, hdrop]
    by_cases hj : j = d
    · subst hj; simp [hdn]
    · simp [hj]

theorem inv_deliver (h : Inv s) {x : Msg} {i d : Nat} (hpc : s.pc = .push x i)
    (hd : s.subs[i]? = some d) : Inv (s.deliver d x i) := by
  have hup := upto_deliver h hpc hd
  obtain ⟨hi, hlast⟩ := h.pcPush x i hpc
  obtain ⟨hdf, hds⟩ := h.of_mem (List.mem_of_getElem? hd)
  have h0 := h.chan d
  have hupd : s.upto d = s.log.length - 1 := by rw [upto_push hpc hds, (drop_at h.nodup hd).1]; simp
  have hle := h0.startLe hdf
  rw [hupd] at hle
  rw [deliver_eq] at hup ⊢
  have hP : ∀ j, (if i + 1 < s.subs.length then Pc.push x (i + 1) else .idle) ≠ .ackUnsub j := fun j e => by
    split at e <;> cases e
  refine inv_change h d h.nodup ?_ rfl (Nat.le_refl _) (h.mem_lt_nchan (List.mem_of_getElem? hd))
    (fun j hj => ⟨if_neg hj, Iff.rfl, ?_, ?_⟩) ?_
  · intro y k hp
    split at hp
    · next hlt => cases hp; exact ⟨hlt, hlast⟩
    · cases hp
  · rw [hpc]; exact iff_of_false (hP j) (fun e => nomatch e)
  · rw [hup j, if_neg hj]
  · refine ⟨?_, ?_, ?_, ?_, ?_, ?_, ?_, ?_⟩ <;> simp only [upd_chan, ↓reduceIte]
    · exact h0.listed
    · exact h0.stopNone
    · exact h0.stopSome
    · exact fun e => nomatch hdf.symm.trans e
    · exact iff_of_false (fun e => nomatch hpc.symm.trans (h0.ack.mp e)) (hP d)
    · rw [hup d, if_pos rfl]; exact fun _ => Nat.le_trans hle (Nat.sub_le ..)
    · unfold St.segment; rw [hup d, if_pos rfl]; intro _
      have e := h0.seg hdf
      unfold St.segment at e
      rw [hupd] at e
      simp only [upd_chan, if_true, upd_log]
      rw [segment_grow hlast hle, ← e]
      simp [Chan.total]
    · exact h0.noDrain

theorem inv_step (h : Inv s) (hs : Step cfg s a s') (hm : s'.misuse = false) :
    Inv s' := by
  cases hs
  case callSub cap =>
    have habs := h.alloc _ (Nat.le_refl s.nchan)
    exact inv_upd h s.nchan _ (hn := Nat.le_succ _) (hcn := Nat.lt_succ_self _) (hst := habs)
      (hl := rfl) (hr := rfl) (hf := rfl) (hack := by simp) (hstop := (h.stopNone _ (by rw [habs]; rfl)).symm)
      (hstart := nofun) (htot := (h.fresh _ (by rw [habs]; rfl)).symm) (hdr := by simp)
  case callUnsub c hst =>
    exact inv_upd h c (fun ch => { ch with stat := .unsubOffer }) (hn := Nat.le_refl _)
      (hcn := h.lt_nchan (by simp [hst])) (hst := hst) (hl := rfl) (hr := rfl) (hf := rfl)
      (hack := by simp) (hstop := rfl) (hstart := fun _ => rfl) (htot := rfl) (hdr := by simp)
  case misuse => cases hm
  case callSend =>
    exact ⟨h.nodup, h.listed, h.stopNone, h.stopSome, h.fresh, h.alloc, h.pcPush, h.ack, h.startLe, h.seg, h.noDrain⟩
  case recvTrace k x hpc hx => exact inv_takeTrace h hpc k x
  case recvSub hpc hst => exact inv_acceptSub h hpc hst
  case recvUnsub hpc hst _ => exact inv_removeSub h hpc hst
  case recvUnsubMiss => exact h
  case push hpc hd _ => exact inv_deliver h hpc hd
  case consume c _ _ hst hb => exact inv_take h false hb (h.noDrain c (Or.inr hst))
  case consumeDirect c x i hst hb hpc hc =>
    exact inv_take (inv_deliver h hpc hc) false (by simp [deliver_eq, hb])
      (by simpa [deliver_eq] using h.noDrain c (Or.inr hst))
  case drain c _ _ _ hst hb => exact inv_take h true hb (by rcases hst with e | e <;> simp [e])
  case drainDirect c x i _ hst hb hpc hc =>
    exact inv_take (inv_deliver h hpc hc) true (by simp [deliver_eq, hb])
      (by rcases hst with e | e <;> simp [deliver_eq, e])
  case subReturn c hst =>
    exact inv_upd h c (fun ch => { ch with stat := .active }) (hn := Nat.le_refl _)
      (hcn := h.lt_nchan (by simp [hst])) (hst := hst) (hl := rfl) (hr := rfl) (hf := rfl)
      (hack := by simp) (hstop := rfl) (hstart := fun _ => rfl) (htot := rfl)
      (hdr := fun _ => h.noDrain c (Or.inl hst))
  case takeOk hpc hst => exact inv_finishUnsub h hpc hst

/-- only `Step.misuse`, a client's (environment) action, sets the flag -/
theorem step_misuse_eq (hs : Step cfg s a s') :
    s'.misuse = s.misuse ∨ (a.isEnv = true ∧ s'.misuse = true) := by
  cases hs <;> simp [St.takeTrace, St.acceptSub, St.removeSub, St.finishUnsub, St.took, deliver_eq, Act.isEnv]

theorem run_append (cfg : Cfg) (s : St) (l1 l2 : List Act) : run cfg s (l1 ++ l2) = run cfg (run cfg s l1) l2 :=
  List.foldl_append ..

/-- only `drain` consults `cfg`; lets `Props/C09.unsubscribe_unsubscribed_spins` compute its run at one `cfg` -/
theorem run_cfg (cfg cfg' : Cfg) {sched : List Act} (h : ∀ a ∈ sched, ∀ c, a ≠ .drain c) (s : St) :
    run cfg s sched = run cfg' s sched := by
  induction sched generalizing s with
  | nil => rfl
  | cons a l ih =>
    have e : step cfg s a = step cfg' s a := by
      cases a <;> first | rfl | exact absurd rfl (h _ (List.mem_cons_self ..) _)
    show run cfg (step' cfg s a) l = run cfg' (step' cfg' s a) l
    unfold step'
    rw [e, ih (fun b hb => h b (List.mem_cons_of_mem _ hb))]

theorem run_induction {P : St → Prop} {sched : List Act}
    (hstep : ∀ s a s', a ∈ sched → P s → Step cfg s a s' → P s') (h : P s) : P (run cfg s sched) := by
  induction sched generalizing s with
  | nil => exact h
  | cons a l ih =>
    refine ih (fun s b s' hb => hstep s b s' (List.mem_cons_of_mem _ hb)) ?_
    unfold step'
    cases hs : step cfg s a with
    | none => exact h
    | some s' => exact hstep s a s' (List.mem_cons_self ..) h (step_iff.mp hs)

theorem run_misuse (hm : s.misuse = true) (sched : List Act) :
    (run cfg s sched).misuse = true :=
  run_induction (P := fun s => s.misuse = true)
    (fun _ _ _ _ h hs => (step_misuse_eq hs).elim (fun e => e.trans h) (·.2)) hm

/-- `P`: whatever the steps between states with the invariant preserve -/
theorem inv_run_from {P : St → Prop} (hstep : ∀ s a s', Inv s → P s → Step cfg s a s' → P s')
    (h : Inv s) (hp : P s) (sched : List Act) :
    (run cfg s sched).misuse = true ∨ (Inv (run cfg s sched) ∧ P (run cfg s sched)) := by
  refine run_induction (P := fun s => s.misuse = true ∨ (Inv s ∧ P s)) (fun s a s' _ h hs => ?_) (Or.inr ⟨h, hp⟩)
  cases hm : s'.misuse with
  | true => exact Or.inl rfl
  | false =>
    rcases h with h | ⟨h, hp⟩
    · rcases step_misuse_eq hs with e | ⟨_, e⟩ <;> simp_all
    · exact Or.inr ⟨inv_step h hs hm, hstep s a s' h hp hs⟩

theorem inv_run (cfg : Cfg) (sched : List Act) (hm : (run cfg init sched).misuse = false) :
    Inv (run cfg init sched) :=
  ((inv_run_from (P := fun _ => True) (fun _ _ _ _ _ _ => trivial) inv_init trivial sched).resolve_left
    (by simp [hm])).1

/-- `start` is written by `recvSub`, status `subWait` by `callSub`, both on a fresh channel -/
theorem step_start_stable (hs : Step cfg s a s') (h : Inv s)
    (hc : (s.chan c).stat.fresh = false) :
    (s'.chan c).start = (s.chan c).start ∧ (s'.chan c).stat.fresh = false := by
  cases hs
  case callSub =>
    have : c ≠ s.nchan := by rintro rfl; rw [h.alloc _ (Nat.le_refl _)] at hc; cases hc
    exact ⟨by simp [this], by simpa [this] using hc⟩
  case recvSub d _ hst =>
    have : c ≠ d := by rintro rfl; rw [hst] at hc; cases hc
    exact ⟨by simp [St.acceptSub, this], by simpa [St.acceptSub, this] using hc⟩
  case callSend | recvTrace | recvUnsubMiss => exact ⟨rfl, hc⟩
  case callUnsub | misuse | recvUnsub | subReturn | takeOk =>
    simp only [St.removeSub, St.finishUnsub, upd_chan]; split
    · exact ⟨rfl, rfl⟩
    · exact ⟨rfl, hc⟩
  case consume | drain | push | consumeDirect | drainDirect =>
    simp only [deliver_eq, St.took, upd_chan]; split <;> exact ⟨rfl, hc⟩

theorem start_run (h : Inv s) (hc : (s.chan c).stat.fresh = false) (post : List Act)
    (hm : (run cfg s post).misuse = false) :
    Inv (run cfg s post) ∧ ((run cfg s post).chan c).start = (s.chan c).start ∧
      ((run cfg s post).chan c).stat.fresh = false :=
  (inv_run_from (P := fun s' => (s'.chan c).start = (s.chan c).start ∧ (s'.chan c).stat.fresh = false)
    (fun _ _ _ h hp hs => let ⟨e, f⟩ := step_start_stable hs h hp.2; ⟨e.trans hp.1, f⟩) h ⟨rfl, hc⟩ post).resolve_left
    (by simp [hm])

def seqsOf (sd : Nat) (l : List Msg) : List Nat := (l.filter (fun m => m.sender == sd)).map (·.seq)

theorem seqsOf_append (sd : Nat) (a b : List Msg) : seqsOf sd (a ++ b) = seqsOf sd a ++ seqsOf sd b := by
  simp [seqsOf]

/-- Sender-order invariant: what the broadcaster has taken from a sender, followed by that sender's blocked `Send`
(at most one), is `0, 1, …, next - 1`. -/
structure SInv (s : St) : Prop where
  order : ∀ sd, seqsOf sd s.log ++ seqsOf sd s.pending = List.range (s.next sd)
  one : ∀ sd, (seqsOf sd s.pending).length ≤ 1

theorem sinv_init : SInv init := by
  constructor <;> intro sd <;> simp [init, seqsOf]

/-- the broadcaster takes the blocked `Send` `x`: a sender has at most one blocked `Send`, so moving `x` to the end of
the log leaves each sender's sequence as it was -/
theorem seqsOf_move (sd : Nat) (log l1 l2 : List Msg) (x : Msg) (hone : (seqsOf sd (l1 ++ x :: l2)).length ≤ 1) :
    seqsOf sd (log ++ [x]) ++ seqsOf sd (l1 ++ l2) = seqsOf sd log ++ seqsOf sd (l1 ++ x :: l2) := by
  rw [show l1 ++ x :: l2 = l1 ++ ([x] ++ l2) from rfl] at hone ⊢
  simp only [seqsOf_append, List.length_append] at hone ⊢
  by_cases hx : x.sender = sd
  · have e : seqsOf sd [x] = [x.seq] := by simp [seqsOf, hx]
    rw [e] at hone ⊢
    have h1 : seqsOf sd l1 = [] := List.eq_nil_of_length_eq_zero (by simp at hone; omega)
    have h2 : seqsOf sd l2 = [] := List.eq_nil_of_length_eq_zero (by simp at hone; omega)
    simp [h1, h2]
  · have e : seqsOf sd [x] = [] := by simp [seqsOf, hx]
    simp [e]

theorem sinv_step (h : SInv s) (hs : Step cfg s a s') : SInv s' := by
  cases hs
  case callSend sd hp =>
    have hnone : seqsOf sd s.pending = [] := by
      simp only [seqsOf, List.map_eq_nil_iff, List.filter_eq_nil_iff]
      exact fun m hm e => by simp [List.any_eq_false.mp hp m hm] at e
    have hsd : ∀ j, seqsOf j [(⟨sd, s.next sd⟩ : Msg)] = if j = sd then [s.next sd] else [] := by
      intro j; simp only [seqsOf, List.filter_cons, List.filter_nil, beq_iff_eq, eq_comm (a := sd)]; split <;> rfl
    constructor <;> intro j <;> simp only [seqsOf_append, hsd] <;> by_cases hj : j = sd
    · subst hj
      have := h.order j
      rw [hnone, List.append_nil] at this
      simp [hnone, this, List.range_succ]
    · simpa [hj] using h.order j
    · subst hj; simp [hnone]
    · simpa [hj] using h.one j
  case recvTrace k x _ hx =>
    obtain ⟨hk, rfl⟩ := List.getElem?_eq_some_iff.mp hx
    have hsplit : s.pending = s.pending.take k ++ s.pending[k] :: s.pending.drop (k + 1) := by simp
    refine ⟨fun sd => ?_, fun sd => Nat.le_trans ?_ (h.one sd)⟩
    · simp only [St.takeTrace, List.eraseIdx_eq_take_drop_succ]
      rw [seqsOf_move sd _ _ _ _ (by rw [← hsplit]; exact h.one sd), ← hsplit]; exact h.order sd
    · simpa [seqsOf, St.takeTrace] using ((List.eraseIdx_sublist s.pending k).filter _).length_le
  case push | consumeDirect | drainDirect => rw [deliver_eq]; exact ⟨h.order, h.one⟩
  all_goals exact ⟨h.order, h.one⟩

theorem sinv_run (cfg : Cfg) (sched : List Act) : SInv (run cfg init sched) :=
  run_induction (fun _ _ _ _ h hs => sinv_step h hs) sinv_init

def Act.isSend : Act → Bool
  | .callSend _ => true
  | _ => false

/-- the premise "before the first `Send`" of `Props/C09.relay_lossless_if_subscribed_first` -/
theorem run_nosend (cfg : Cfg) (pre : List Act) (hpre : ∀ a ∈ pre, a.isSend = false) :
    (run cfg init pre).log = [] := by
  refine (run_induction (P := fun s => s.log = [] ∧ s.pending = []) (fun s a s' ha h hs => ?_) ⟨rfl, rfl⟩).1
  cases hs
  case callSend => cases hpre _ ha
  case recvTrace hx => rw [h.2] at hx; cases hx
  case push | consumeDirect | drainDirect => rw [deliver_eq]; exact h
  all_goals exact h

end Bpmn.Model.Tracer
